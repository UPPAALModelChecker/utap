/-
C19 — expression cloning, substitution and equality obey their algebraic laws.

Objects (Model/Heap.lean): trees with node identities (`node id attr children`; `id` = identity of the C++ node object),
`equal`, `clone`, `cloneDeeper`/`cloneDeeperWith` (the three overloads), `subst`, `getSize`/`sizeOfAttr` mirrored from
src/expression.cpp; `arityOf` is regenerated from the `switch` of `expression_t::get_size` on every run
(translate/arity.py → Gen/Arity.lean).  All theorems are for trees of any size and shape (induction, no bounds).

Hypotheses that appear below:
* `parseBuilt e`   every node has the number of children its kind is built with (Model/Heap.lean `builtArity`, read off
                   the builders; checked against every parsed node by the correspondence run);
* `noNaN e`        no floating-point constant is a NaN (`equal` uses IEEE `==`; the parser cannot produce one);
* `Coherent U`     one identity = one node object among the trees considered (what a heap is);
* fresh supply     identities `≥ n` are unused (`∀ i ∈ ids e, i < n`).

Full strength: reflexive / symmetric / transitive, deep clone, independence, subst exact / frame / self, distinguishes,
get_size.  NOT provable at full strength — and false of the library:
    theorem equal_implies_same_text (a b) : equal a b = true → text a = text b
because `equal` compares the value variant but not the constant's type, while `print` chooses `true/false` vs `1/0` by the
type.  Proved instead: `equal_implies_same_text_partial` (outside the exception shape "corresponding constants of different
type class") and the negation on the witness `b == true` / `b == 1` (`equal_text_witness`).
-/
import UtapModel.Lemmas.HeapOps

namespace UtapModel.C19
open UtapModel UtapModel.Heap

/-! ### sample trees for the `example`s -/
def cst (id : Nat) (v : Int) (ty : Ty) : HExpr := .node id { kind := .kCONSTANT, val := .int v, sym := none, ty := ty } []
def idt (id sym : Nat) : HExpr := .node id { kind := .kIDENTIFIER, val := .int 0, sym := some sym, ty := .bool } []
def bin (id : Nat) (k : Kind) (a b : HExpr) : HExpr := .node id { kind := k, val := .int 0, sym := none, ty := .other } [a, b]
/-- `b + (b + 7)` with node identities 0..4 -/
def sample : HExpr := bin 0 .kPLUS (idt 1 5) (bin 2 .kPLUS (idt 3 5) (cst 4 7 .int))

/-! ### structural equality is an equivalence -/

theorem equal_refl (e : HExpr) : equal e e = true := Heap.equal_refl e

theorem equal_symm (a b : HExpr) : equal a b = equal b a := Heap.equal_symm a b

/-- transitive on any heap (a set of trees in which one identity denotes one node) -/
theorem equal_trans (a b c : HExpr) (hco : Coherent (subtreesL [a, b, c]))
    (h1 : equal a b = true) (h2 : equal b c = true) : equal a c = true :=
  equal_trans_in _ (closed_subtreesL _) hco a b c (mem_subtreesL_of_mem (by simp)) (mem_subtreesL_of_mem (by simp))
    (mem_subtreesL_of_mem (by simp)) h1 h2

example : ∃ a b c : HExpr, equal a b = true ∧ equal b c = true ∧ a.id? ≠ c.id? :=
  ⟨sample, (cloneDeeper 10 sample).1, (cloneDeeper 20 sample).1, by decide⟩

/-! ### deep clone: equal, shares no node, independent under later changes -/

theorem clone_deeper_equal (n : Nat) (e : HExpr) (hn : noNaN e = true) (hb : parseBuilt e = true) :
    equal (cloneDeeper n e).1 e = true ∧ equal e (cloneDeeper n e).1 = true := by
  have h := equal_cloneDeeper n e hn (wellBuilt_of_parseBuilt e hb)
  exact ⟨h, by rw [Heap.equal_symm]; exact h⟩

example : noNaN sample = true ∧ parseBuilt sample = true := by decide

/-- the deep clone is the same tree up to node identities — also through the other two overloads, with the symbols mapped -/
theorem clone_deeper_same (n : Nat) (e : HExpr) : same (cloneDeeper n e).1 e = true := same_cloneDeeper n e

/-- … and shares no node with the original: every identity in it is fresh -/
theorem clone_deeper_shares_no_node (g : Option Nat → Option Nat) (n : Nat) (e : HExpr) (hf : ∀ i ∈ ids e, i < n) :
    ∀ i ∈ ids (cloneDeeperWith g n e).1, i ∉ ids e := by
  intro i hi hmem
  have := (cloneDeeperWith_ids g n e).2 i hi
  have := hf i hmem
  omega

example : ∀ i ∈ ids sample, i < 10 := by decide

/-- a later in-place change of any node of the original is not seen through the clone, and vice versa -/
theorem mutate_independent (g : Option Nat → Option Nat) (n : Nat) (e : HExpr) (hf : ∀ i ∈ ids e, i < n)
    (k : Nat) (f : Attr → List HExpr → Attr × List HExpr) :
    (k ∈ ids e → mutate k f (cloneDeeperWith g n e).1 = (cloneDeeperWith g n e).1) ∧
    (k ∈ ids (cloneDeeperWith g n e).1 → mutate k f e = e) := by
  refine ⟨fun hk => mutate_of_not_mem k f _ (fun hc => ?_), fun hk => mutate_of_not_mem k f _ (fun hc => ?_)⟩
  · exact clone_deeper_shares_no_node g n e hf k hc hk
  · exact clone_deeper_shares_no_node g n e hf k hk hc

/-- the shallow `clone()` by contrast shares its children: a change below the root IS seen (documented behaviour) -/
example : same (mutate 2 (fun a _ => (a, [])) (clone 10 sample).1) (clone 10 sample).1 = false := by decide

/-- replaces exactly the identifier occurrences of the symbol (`substSpec` is the declarative substitution) -/
theorem subst_exact (s : Nat) (r : HExpr) (n : Nat) (e : HExpr) (hb : parseBuilt e = true) :
    same (subst s r n e).1 (substSpec s r e) = true :=
  subst_same_spec s r n e (wellBuilt_of_parseBuilt e hb)

/-- leaves the source unchanged: identities are allocated from `n` upwards, and every node of the result that carries an
    older identity is a node of `e` or of `r`, exactly as it was -/
theorem subst_preserves_source (s : Nat) (r : HExpr) (n : Nat) (e : HExpr) :
    ∀ i a sub, HExpr.node i a sub ∈ subtrees (subst s r n e).1 → i < n →
      (HExpr.node i a sub ∈ subtrees e ∨ HExpr.node i a sub ∈ subtrees r) :=
  (subst_frame s r n e).2

/-- substituting a symbol by itself is the identity (`r` = any expression `equal` to the occurrences, e.g.
    `create_identifier(s)`) -/
theorem subst_self (s : Nat) (r : HExpr) (n : Nat) (e : HExpr) (hn : noNaN e = true) (hb : parseBuilt e = true)
    (hr : ∀ i a sub, HExpr.node i a sub ∈ subtrees e → isIdentOf s a = true → equal r (HExpr.node i a sub) = true) :
    equal (subst s r n e).1 e = true :=
  subst_self_equal s r n e hn (wellBuilt_of_parseBuilt e hb) hr

example : (subtrees sample).all (fun x => match x with
    | .node _ a _ => !isIdentOf 5 a || equal (idt 99 5) x
    | .null => true) = true := by decide

/-! ### equal distinguishes single-node perturbations -/

theorem equal_kind_differs (i j : Nat) (a b : Attr) (s t : List HExpr) (hij : i ≠ j) (h : a.kind ≠ b.kind) :
    equal (.node i a s) (.node j b t) = false :=
  equal_of_attr_ne hij s t fun c => h c.2.1

theorem equal_symbol_differs (i j : Nat) (a b : Attr) (s t : List HExpr) (hij : i ≠ j) (h : a.sym ≠ b.sym) :
    equal (.node i a s) (.node j b t) = false :=
  equal_of_attr_ne hij s t fun c => h c.2.2.2

theorem equal_constant_differs (i j : Nat) (a b : Attr) (s t : List HExpr) (hij : i ≠ j) (h : valEq a.val b.val = false) :
    equal (.node i a s) (.node j b t) = false :=
  equal_of_attr_ne hij s t fun c => Bool.eq_false_iff.1 h c.2.2.1

/-- operand order: exchanging two children that are not `equal` -/
theorem equal_order_differs (i j : Nat) (a : Attr) (x y : HExpr) (pre mid post : List HExpr) (hij : i ≠ j)
    (hsz : sizeOfAttr a = (pre ++ x :: mid ++ y :: post).length) (h : equal x y = false) :
    equal (.node i a (pre ++ x :: mid ++ y :: post)) (.node j a (pre ++ y :: mid ++ x :: post)) = false := by
  have hl : pre.length < sizeOfAttr a := by rw [hsz]; simp
  rw [equal_node_of_ne hij, List.append_assoc, List.append_assoc, List.cons_append, List.cons_append,
    equalL_false_of_prefix h pre _ hl, Bool.and_false]

/-- **any** single-node perturbation: rebuild the path to the node (fresh ancestors, as `clone()` + assignment does) and put a
    tree that is not `equal` to the old sub-tree in its place — the whole trees are not `equal` -/
theorem equal_distinguishes (new : HExpr) (path : List Nat) (n : Nat) (e : HExpr) (hb : parseBuilt e = true)
    (hf : ∀ i ∈ ids e, i < n) (hv : validPath path e = true) (h : equal (subAt path e) new = false) :
    equal e (replaceAt new path n e).1 = false ∧ equal (replaceAt new path n e).1 e = false := by
  have := equal_replaceAt new path n e (wellBuilt_of_parseBuilt e hb) hf hv h
  exact ⟨this, by rw [Heap.equal_symm]; exact this⟩

example : validPath [1, 1] sample = true ∧ equal (subAt [1, 1] sample) (cst 50 8 .int) = false := by decide

/-! ### the number of children reported equals the number accessible -/

/-- `get_size` (generated table) against the arity every kind is built with: one closed evaluation per kind -/
theorem arity_table (k : Kind) : builtArity k = none ∨ builtArity k = some (arityOf k) := builtArity_table k

/-- at every node of a tree the builders made, `get_size()` is the number of children -/
theorem arity_accessible (e : HExpr) (hb : parseBuilt e = true) : wellBuilt e = true := wellBuilt_of_parseBuilt e hb

/-! ### equal implies equal text — outside the exception shape -/

/-- for every printer that lays a node out from its kind, its payload and its children's texts: two `equal` trees whose
    corresponding constants have the same type class and value print the same -/
theorem equal_implies_same_text_partial (symName : Nat → String) (fmtDouble : Nat → String)
    (lay : Kind → String → List String → String) (a b : HExpr) (hco : Coherent (subtreesL [a, b]))
    (ha : parseBuilt a = true) (hb : parseBuilt b = true) (h : equal a b = true) (hc : constCompat a b = true) :
    text symName fmtDouble lay a = text symName fmtDouble lay b :=
  text_eq_of_equal _ (closed_subtreesL _) hco symName fmtDouble lay a b (mem_subtreesL_of_mem (by simp))
    (mem_subtreesL_of_mem (by simp)) (wellBuilt_of_parseBuilt a ha) (wellBuilt_of_parseBuilt b hb) h hc

/-- the exception shape is real: `b == true` and `b == 1` are `equal` and print differently -/
def witT : HExpr := bin 10 .kEQ (idt 11 5) (cst 12 1 .bool)
def wit1 : HExpr := bin 20 .kEQ (idt 21 5) (cst 22 1 .int)
def layout (k : Kind) (p : String) (cs : List String) : String := k.name ++ "[" ++ p ++ "](" ++ " ".intercalate cs ++ ")"

theorem equal_text_witness :
    equal witT wit1 = true ∧ parseBuilt witT = true ∧ parseBuilt wit1 = true ∧ constCompat witT wit1 = false ∧
    text (fun _ => "b") (fun _ => "") layout witT ≠ text (fun _ => "b") (fun _ => "") layout wit1 := by decide

/-- the computed exception set: pairs of type classes whose same-valued constants (`valEq`) print differently -/
def textExceptions : List (Ty × Ty) :=
  ([Ty.bool, Ty.int, Ty.other].flatMap fun t1 => [Ty.bool, Ty.int, Ty.other].map fun t2 => (t1, t2)).filter fun p =>
    [0, 1].any fun v =>
      payload (fun _ => "") (fun _ => "") { kind := .kCONSTANT, val := .int v, sym := none, ty := p.1 }
        != payload (fun _ => "") (fun _ => "") { kind := .kCONSTANT, val := .int v, sym := none, ty := p.2 }

theorem textExceptions_eq : textExceptions = [(.bool, .int), (.int, .bool), (.int, .other), (.other, .int)] := by decide

end UtapModel.C19
