/-
C04 / C16 (invariants) — the invariant the type checker stores for a location mirrors the invariant of the source.

`TypeChecker::visitLocation` replaces every well-typed invariant by the result of `RateDecomposer::decompose` (Model/RateDecomp.lean, whose
open points `RateDecompCfg.cfg` are read from src/typechecker.cpp on every run).  For every invariant — any nesting of conjunctions,
rates and quantifiers — the stored invariant is the constant 1 followed by exactly the conjuncts of the source that are not cost rates:
each once, in source order, a quantified conjunct whole, nothing from inside a quantifier on its own; the cost rate is the last one of
the source, and the counters and flags count what the source contains.
-/
import UtapModel.Lemmas.RateDecomp
import UtapModel.Gen.RateDecompCfg

namespace UtapModel.C04Rate
open UtapModel.RateDecomp

/-- **tie T**: the decomposer of the current source is the one the theorems below are about -/
theorem C04_rate_cfg : RateDecompCfg.cfg = pinned := by decide

/-- the stored decomposition is used for every well-typed invariant (whole-text match of `visitLocation` in the translator) -/
theorem C04_rate_stored_unconditionally : RateDecompCfg.visitLocationStoresDecomposition = true := by decide

/-- **the stored invariant is `1` and then the conjuncts of the source that are not cost rates, each once, in order** -/
theorem C04_invariant_conjuncts (e : WR) :
    (stored RateDecompCfg.cfg e).conj = Conj.one :: ((spine e).filter (fun l => !isCost l)).map (fun l => Conj.sub (name l)) := by
  rw [C04_rate_cfg, stored_pinned]
  rfl

/-- nothing is added or duplicated: the number of stored conjuncts is 1 + the number of non-cost conjuncts of the source -/
theorem C04_invariant_count (e : WR) :
    (stored RateDecompCfg.cfg e).conj.length = 1 + ((spine e).filter (fun l => !isCost l)).length := by
  rw [C04_invariant_conjuncts]; simp [Nat.add_comm]

/-- a quantified conjunct is stored whole and nothing from inside it separately: what is stored depends only on the conjunction spine -/
theorem C04_invariant_quantifier_opaque (b b' : WR) (n : Nat) (l r : WR) :
    (stored RateDecompCfg.cfg (.and l (.and (.all b n) r))).conj = (stored RateDecompCfg.cfg (.and l (.and (.all b' n) r))).conj := by
  rw [C04_invariant_conjuncts, C04_invariant_conjuncts]
  show Conj.one :: kept _ = Conj.one :: kept _
  simp only [kept_and, kept_all]

/-- the cost rate stored with the location is the last cost rate of the source (a quantified body included), and they are all counted -/
theorem C04_cost_rate (e : WR) :
    (stored RateDecompCfg.cfg e).cost = lastCost (costs e) none ∧ (stored RateDecompCfg.cfg e).costCount = (costs e).length := by
  rw [C04_rate_cfg, stored_pinned]
  exact ⟨rfl, rfl⟩

/-- the stop-watch and strict-invariant flags say what the source contains (a quantified body included) -/
theorem C04_rate_flags (e : WR) :
    (stored RateDecompCfg.cfg e).clockRates = hasClockRate e ∧ (stored RateDecompCfg.cfg e).strict = hasStrict e := by
  rw [C04_rate_cfg, stored_pinned]
  exact ⟨rfl, rfl⟩

/-- the decomposition of a conjunction is the decomposition of its operands, one after the other (order of the source) -/
theorem C04_invariant_and (a b : WR) :
    (stored RateDecompCfg.cfg (.and a b)).conj = (stored RateDecompCfg.cfg a).conj ++ ((stored RateDecompCfg.cfg b).conj.drop 1) := by
  rw [C04_invariant_conjuncts, C04_invariant_conjuncts a, C04_invariant_conjuncts b]
  exact congrArg (Conj.one :: ·) (kept_and a b)

/-- `y <= 5 && forall (i) (zs[i]' == 0 && forall (j) xs[i][j]' == 0) && cost' == 2 && y' == 1` -/
private def ex : WR :=
  .and (.and (.and (.inv false 1) (.all (.and (.rate false 3) (.all (.rate false 5) 4)) 2)) (.rate true 6)) (.rate false 7)

example : (stored RateDecompCfg.cfg ex).conj = [.one, .sub 1, .sub 2, .sub 7] := by decide
example : (stored RateDecompCfg.cfg ex).cost = some 6 := by decide

/-- the guard of the quantified case is needed: without it (the decomposer as it was before the repair 1643a94) the inner quantifier
    of a nested one is stored a second time, outside its binder -/
theorem C04_nested_quantifier_witness :
    (stored { pinned with allGuarded := false } ex).conj = [.one, .sub 1, .sub 4, .sub 2, .sub 7] := by decide

/-- the quantified body is entered with `inforall = true`: otherwise its rates would be stored on their own -/
theorem C04_forall_body_witness :
    (stored { pinned with allBodyInForall := false } ex).conj = [.one, .sub 1, .sub 3, .sub 5, .sub 4, .sub 2, .sub 7] := by decide

end UtapModel.C04Rate
