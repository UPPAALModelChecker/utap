/- C07: identifiers bind to the innermost preceding declaration in scope.

   `specRun` (Model/ScopeScript.lean) is the declarative reading: environment = open scopes, innermost first, each with its
   declarations latest first; `implRun` is the M-SCOPE machine (symbol heap, frame store with raw parent links, the
   name -> last-index lookup per frame, the builder's frame stack, `resolveIn` = frame_t::resolve).  The theorems say the
   machine computes exactly the declarative binding on every well-nested script, characterise that binding in the words
   of the property, and link the machine's four operations to the M-BUILD callbacks that perform them.
   Helper lemmas: UtapModel/Lemmas/C07.lean; the three about `BState.scope` stand below its definition here. -/
import UtapModel.Lemmas.C07
import UtapModel.Model.Builder
import UtapModel.Model.C16

namespace UtapModel.Builder

/-- the stack machine resolves every use exactly as the declarative semantics says, for every well-nested script
    (any nesting of function / block / iteration / quantifier / template / edge-select / instantiation scopes, with symbols
    taken out of a frame again by `frame_t::remove` at any point: the rebuilt frame denotes the scope without that declaration) -/
theorem C07_binding (evs : List Ev) (h : wellNested 0 evs = true) : implRun SState.init evs = specRun [[]] 0 evs :=
  impl_eq_spec evs SState.init [[]] 0 0 Rel.init rfl h

-- the hypothesis is satisfiable by a non-trivial script: global a; template(param a) { local b; edge { select a; use a; forall a: use a }; use a }
example : wellNested 0 [.declare "a", .enter ["a"], .declare "b", .enter [], .declare "a", .use "a", .enter ["a"], .use "a", .leave,
    .leave, .use "a", .leave, .use "a", .use "zz"] = true ∧
    specRun [[]] 0 [.declare "a", .enter ["a"], .declare "b", .enter [], .declare "a", .use "a", .enter ["a"], .use "a", .leave,
      .leave, .use "a", .leave, .use "a", .use "zz"] = [some 3, some 4, some 1, some 0, none] := by decide

/-- a use is unknown exactly when no open scope declares the name (or the name is empty) -- it is never bound to a
    declaration that comes later or lives in a scope that is not open -/
theorem C07_unknown (x : String) (scopes : List Scope) :
    lookupScopes x scopes = none ↔ (x = "" ∨ ∀ sc ∈ scopes, ∀ d ∈ sc, d.1 ≠ x) := by
  rw [lookupScopes_eq_findSome?, List.findSome?_eq_none_iff]
  simp only [lookupScope_eq_none_iff]
  by_cases hx : x = "" <;> simp [hx]

/-- the binding is to a declaration of that very name in an open scope -/
theorem C07_bound_is_declared (x : String) (scopes : List Scope) (d : Nat) (h : lookupScopes x scopes = some d) :
    ∃ sc ∈ scopes, (x, d) ∈ sc := by
  rw [lookupScopes_eq_findSome?, List.findSome?_eq_some_iff] at h
  obtain ⟨inner, sc, outer, rfl, hd, -⟩ := h
  obtain ⟨-, later, earlier, rfl, -⟩ := lookupScope_eq_some_iff.mp hd
  exact ⟨_, List.mem_append_right _ List.mem_cons_self, List.mem_append_right _ List.mem_cons_self⟩

/-- "innermost": the binding comes from the nearest enclosing scope that declares the name -- no scope inside it does -/
theorem C07_innermost (x : String) (scopes : List Scope) (d : Nat) (h : lookupScopes x scopes = some d) :
    ∃ inner sc outer, scopes = inner ++ sc :: outer ∧ (∀ s' ∈ inner, lookupScope x s' = none) ∧ lookupScope x sc = some d := by
  rw [lookupScopes_eq_findSome?, List.findSome?_eq_some_iff] at h
  obtain ⟨inner, sc, outer, he, hd, hi⟩ := h
  exact ⟨inner, sc, outer, he, hi, hd⟩

/-- "preceding, last": within that scope the binding is the latest declaration of the name (scopes list their
    declarations latest first; declarations that textually follow the use are not in the environment at all) -/
theorem C07_latest (x : String) (sc : Scope) (d : Nat) (h : lookupScope x sc = some d) :
    ∃ later earlier, sc = later ++ (x, d) :: earlier ∧ ∀ e ∈ later, e.1 ≠ x :=
  (lookupScope_eq_some_iff.mp h).2

/-! ### a symbol taken out of its frame (`Document::remove_process` → `frame_t::remove`) -/

/-- removal withdraws exactly the declaration a use of the name was bound to: the scope is the same list of declarations, in the
    same order, without that one -/
theorem C07_remove_withdraws_latest (x : String) (sc : Scope) (d : Nat) (h : lookupScope x sc = some d) :
    ∃ later earlier, sc = later ++ (x, d) :: earlier ∧ (∀ e ∈ later, e.1 ≠ x) ∧ withdraw x sc = later ++ earlier := by
  obtain ⟨hx, later, earlier, hs, hl⟩ := lookupScope_eq_some_iff.mp h
  exact ⟨later, earlier, hs, hl, by rw [hs, withdraw_append hx hl]⟩

/-- every other name keeps its binding: the declarations after the removed one do not move -/
theorem C07_remove_keeps_others (x y : String) (sc : Scope) (h : y ≠ x) : lookupScope y (withdraw x sc) = lookupScope y sc := by
  cases hl : lookupScope x sc with
  | none => rw [withdraw_of_lookupScope_eq_none hl]
  | some d =>
    obtain ⟨hx, later, earlier, rfl, hlat⟩ := lookupScope_eq_some_iff.mp hl
    rw [withdraw_append hx hlat]
    simp [lookupScope, List.find?_append, h.symm]

/-- the removed name falls back to the declaration it was hiding in that scope (the instantiation `A = T(1)` behind the process
    `A`), and to the enclosing scopes when there is none -/
theorem C07_remove_reexposes (x : String) (later earlier : Scope) (d : Nat) (hl : ∀ e ∈ later, e.1 ≠ x) :
    lookupScope x (withdraw x (later ++ (x, d) :: earlier)) = lookupScope x earlier := by
  by_cases hx : x = ""
  · simp [lookupScope, hx]
  · rw [withdraw_append hx hl, lookupScope, lookupScope, List.find?_append, List.find?_eq_none.mpr (by simpa using hl)]
    rfl

/-- a name the scope does not declare: nothing is removed -/
theorem C07_remove_absent (x : String) (sc : Scope) (h : lookupScope x sc = none) : withdraw x sc = sc :=
  withdraw_of_lookupScope_eq_none h

/-- the machine's removal is the rebuild of symbols.cpp: the top frame keeps every symbol but the removed one, in order -/
theorem C07_remove_is_rebuild (s : SState) (x : String) (fr : Frame) (sid : SymId) (hf : s.store[s.top]? = some fr)
    (hl : fr.lookup s.syms x = some sid) :
    (s.remove x).store[s.top]? = some { fr with syms := fr.syms.filter (· ≠ sid) } ∧ (s.remove x).syms = s.syms ∧
      (s.remove x).frames = s.frames := by
  simp [SState.remove, hf, hl]

-- removal in a non-trivial script: globals a, P (instantiation), P (process), Q, R; remove P: Q and R keep their declarations, P falls
-- back to the instantiation; remove P again: unknown
example : specRun [[]] 0 [.declare "a", .declare "P", .declare "P", .declare "Q", .declare "R", .use "P", .remove "P", .use "P", .use "Q",
    .use "R", .use "a", .remove "P", .use "P", .use "R"] = [some 2, some 1, some 3, some 4, some 0, none, some 4] := by decide

/-! ### the M-BUILD callbacks perform the machine's operations -/

/-- what name resolution sees of a builder state (types and user data of symbols are irrelevant to it) -/
def eraseSyms (syms : List Symbol) : List Symbol := syms.map (fun s => ⟨s.name, .var ⟨false⟩, none⟩)

def BState.scope (s : BState) : SState := ⟨eraseSyms s.syms, s.store, s.frames⟩

theorem C07_identifier_is_use (s : BState) (x : String) :
    (step s (.exprIdentifier x)).binds.head? = some (x, s.scope.use x) := by
  have hname : ∀ sid, symName (eraseSyms s.syms) sid = symName s.syms sid := by
    intro sid; unfold symName eraseSyms; rw [List.getElem?_map]; cases s.syms[sid]? <;> rfl
  have hlook : ∀ (f : Frame) (n : String), f.lookup (eraseSyms s.syms) n = f.lookup s.syms n := by
    intro f n; unfold Frame.lookup; simp only [hname]
  have hres : ∀ fuel fid, resolveIn (eraseSyms s.syms) s.store fuel fid x = resolveIn s.syms s.store fuel fid x := by
    intro fuel
    induction fuel with
    | zero => intro fid; rfl
    | succ n ih => intro fid; simp only [resolveIn, hlook, ih]
  simp [step, BState.pushFresh, BState.scope, SState.use, SState.top, BState.resolve, BState.top, hres]

theorem scope_addSymbol (s : BState) (x : String) (ty : STy) (u : Option Obj) :
    (s.addSymbol s.top x ty u).1.scope = s.scope.declare x := by
  simp [BState.addSymbol, BState.scope, SState.declare, SState.top, BState.top, eraseSyms, addToFrame]

theorem scope_pushNewFrame (s : BState) : s.pushNewFrame.scope = s.scope.enter [] := by
  simp [BState.pushNewFrame, BState.newFrame, BState.pushFrame, BState.scope, SState.enter, SState.top, BState.top, mkSyms]

/-- `Document::add_variable` is `declare` whenever the frame it registers the symbol in is the one on top -/
theorem scope_addVariable (s : BState) (ty : Ty) (x : String) {cf : Option Nat} (hcf : s.currentFun = cf)
    (h : (match cf with | some _ => s.top | none => s.declFrame s.declBlock) = s.top) :
    (s.addVariable ty x).1.scope = s.scope.declare x := by
  unfold BState.addVariable
  rw [hcf]
  cases cf with
  | some f => exact scope_addSymbol s x _ _
  | none => simp only [h]; exact scope_addSymbol s x _ _

theorem C07_block_begin_is_enter (s : BState) : (step s .blockBegin).scope = s.scope.enter [] := scope_pushNewFrame s

theorem C07_block_end_is_leave (s : BState) : (step s .blockEnd).scope = s.scope.leave := rfl
theorem C07_quant_end_is_leave (s : BState) : (step s .quantEnd).scope = s.scope.leave := rfl
theorem C07_iteration_end_is_leave (s : BState) : (step s .iterationEnd).scope = s.scope.leave := rfl
theorem C07_edge_end_is_leave (s : BState) : (step s .procEdgeEnd).scope = s.scope.leave := rfl
theorem C07_func_end_is_leave (s : BState) : (step s .declFuncEnd).scope = s.scope.leave := rfl
theorem C07_proc_end_is_leave (s : BState) : (step s .procEnd).scope = s.scope.leave := rfl

/-- quantifier / select-like binder: a new scope with the binder as its only declaration -/
theorem C07_quant_begin_is_enter (s : BState) (x : String) : (step s (.quantBegin x)).scope = s.scope.enter [x] :=
  calc (step s (.quantBegin x)).scope
    _ = s.popType.1.pushNewFrame.scope.declare x := scope_addSymbol _ x _ none
    _ = (s.scope.enter []).declare x := congrArg (SState.declare · x) (scope_pushNewFrame _)
    _ = s.scope.enter [x] := enter_declare s.scope [] x

/-- a local declaration inside a function body goes to the frame on top -/
theorem C07_local_decl_is_declare (s : BState) (x : String) (f : Nat) (hf : s.currentFun = some f) :
    (step s (.declVar x false)).scope = s.scope.declare x :=
  scope_addVariable s.popType.1 _ x hf rfl

/-- a global / template-level declaration goes to the declaration block's frame, which is the frame on top whenever the
    callers are well nested (hypothesis `htop`) -/
theorem C07_decl_is_declare (s : BState) (x : String) (hf : s.currentFun = none) (htop : s.declFrame s.declBlock = s.top) :
    (step s (.declVar x false)).scope = s.scope.declare x :=
  scope_addVariable s.popType.1 _ x hf htop

/-- every production of today's grammar (table regenerated from src/parser.y on every run; frame effect of each callback =
    what the model's `step` does) pushes and pops scope frames in a balanced way and never pops a frame it did not push.
    Hence the scope events of an error-free derivation are well nested (each nonterminal contributes a balanced sub-list).
    Productions abandoned half way by error recovery are the exception shapes of C16. -/
theorem C07_grammar_frame_balanced : UtapModel.C16.allProductionsBalanced = true := by decide +kernel

/- Not proved (full statement kept):
   theorem C07_wellnested_of_grammar : for every error-free derivation of the grammar the scope events of its callback
     list are `wellNested` (needs the production table machinery of C01; on error paths frames can be left pushed -- the
     computed exception shapes of C16);
   theorem C07_process_member : `P.x` in a query binds to the declaration x of P's template with P's arguments
     substituted (expr_dot on a process: type_t::find_index_of over the template frame + subst of instance_t::mapping):
     checked on the real library only (harness/c07.cpp), the model has no types to substitute into. -/

end UtapModel.Builder
