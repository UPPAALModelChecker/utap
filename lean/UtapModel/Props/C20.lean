/- C20 -- the XML writer's template graph mirrors the document it was given; writing never crashes.

   Model: `writeXml : WDoc → Option Xml` (`none` = the writer dereferences a null pointer), the independent reader
   `readGraph : Xml → Graph`, the specification `graphOf : WDoc → Graph` (all in Model/XmlWrite.lean), the computed
   exception shapes `docShapes`.  Helper lemmas: Lemmas/C20.lean.  Tie: correspondence run of checks/c20.py against the
   real `write_XML_file`, read back with libxml2's tree API.

   The writer model is parameterised by `WCfg` (is a probability label / the controllable attribute / are branchpoints /
   is every select binding with its type written); `cfgOfSource` is computed from the tables generated from the current
   xmlwriter.cpp, so the theorems below hold for the unchanged writer (all four false) as well as for a repaired one.

   Full-strength statement (NOT provable for the unchanged writer, see the witnesses below):
     theorem C20_full (d : WDoc) : (writeXml cfgOfSource d).map readGraph = some (graphOf cfgOfSource d)           -/
import UtapModel.Lemmas.C20
import UtapModel.Model.XmlWriteCfg
namespace UtapModel.AM

/-- a document using everything the writer handles: named locations, invariant (as the type checker stores it) and
    rate, urgent / committed, self loop, parallel edges, a select over a typedef'd type, guard, sync, update -/
def sampleDoc : WDoc :=
  { procs := [{ name := "P", isTempl := false, bound := [true, true] }, { name := "T", isTempl := true, bound := [false] }],
    templs := [
   { name := "T",
     locs := [{ name := "L0", inv := some (.andOne "x <= 5"), rate := some (.plain "3"), urgent := false, committed := false },
              { name := "_id1", inv := none, rate := none, urgent := true, committed := false },
              { name := "L<2>", inv := some .one, rate := none, urgent := false, committed := true }],
     bps := [], init := some 0,
     edges := [{ src := .loc 0, dst := .loc 1, ctrl := true, select := [{ id := "i", ty := "idT", named := true }],
                 guard := some (.plain "x >= 1 && m == i"), sync := some (.plain "ch[1]!"), assign := some (.plain "m = 4, x = 0"),
                 prob := some .one },
               { src := .loc 0, dst := .loc 1, ctrl := true, select := [], guard := some .one, sync := none, assign := some .one,
                 prob := some .one },
               { src := .loc 2, dst := .loc 2, ctrl := true, select := [], guard := some .one, sync := some (.plain "ch[2]?"),
                 assign := some .one, prob := some .one }] }] }

example : docShapes cfgOfSource sampleDoc = [] := by decide +kernel
example : ∀ a b c d : Bool, docShapes ⟨a, b, c, d⟩ sampleDoc = [] := by decide +kernel

/-- **C20 (outside the exception shapes).**  For every document none of whose edges / templates has one of the computed
    shapes, the writer does not crash and an independent reader of the written tree finds exactly the document's graph:
    per template one location element per location (id `id<nr>`, name, invariant and rate label, urgent / committed),
    one init reference to the initial location, one transition per edge in order with the ids of its endpoints, the
    controllable flag and the select / guard / synchronisation / assignment labels carrying the non-trivial texts. -/
theorem C20_partial (c : WCfg) (d : WDoc) (h : docShapes c d = []) :
    (writeXml c d).map readGraph = some (graphOf c d) := by
  have hno := List.eq_nil_iff_forall_not_mem.1 h
  simp only [mem_docShapes, not_or, not_exists, not_and] at hno
  have hok : ∀ t ∈ d.templs, templShapes c t = [] := fun t ht => List.eq_nil_iff_forall_not_mem.2 fun s => (hno s).1 t ht
  have hpc : d.procs.any procCrash = false := Bool.eq_false_iff.2 ((hno .unboundProcess).2 rfl)
  have hall := allSome_map_some (wTempl c) (wTempl' c) d.templs fun t ht => (wTempl_reads c t (hok t ht)).1
  have hts : (d.templs.map (wTempl' c)).filterMap templF = d.templs.map (gtemplOf c) :=
    filterMap_map_some fun t ht => (wTempl_reads c t (hok t ht)).2
  simp [writeXml, hpc, hall, readGraph, graphOf, List.filterMap_append, hts, templF]

/-- **C20, crashes.**  The writer dereferences a null pointer exactly when some edge starts or ends in a branchpoint
    or some template has no initial location. -/
theorem C20_crash_iff (c : WCfg) (d : WDoc) :
    writeXml c d = none ↔
      Shape.branchpointEndpoint ∈ docShapes c d ∨ Shape.noInit ∈ docShapes c d ∨ Shape.unboundProcess ∈ docShapes c d := by
  simp only [mem_docShapes, mem_templShapes, mem_edgeShapes, reduceCtorEq, false_and, and_false, or_false, false_or, true_and,
    exists_false]
  exact writeXml_eq_none_iff c d

/-- **C20, ids.**  The location ids the writer emits are unique within a template. -/
theorem C20_ids_unique (c : WCfg) (t : WTempl) : ((gtemplOf c t).locs.map (·.id)).Nodup := by
  rw [gtemplOf_ids]
  exact List.Pairwise.map _ (fun a b hab heq => hab (idOf_injective (Option.some.inj heq))) List.nodup_range

/-- **C20, endpoints resolve.**  Among the location elements of a written template, the ones carrying the id that an edge
    endpoint `loc n` is written with are exactly the element of the `n`-th location of the document: an endpoint can never be
    read back as a different location (e.g. after a renumbering of ids) and never dangles. -/
theorem C20_endpoint_resolves (c : WCfg) (t : WTempl) (n : Nat) (hn : n < t.locs.length) (g : GLoc) :
    (g ∈ (gtemplOf c t).locs ∧ g.id = endId c (.loc n)) ↔ g = glocOf (t.locs[n], n) := by
  constructor
  · rintro ⟨hg, hid⟩
    obtain ⟨⟨l, i⟩, hm, rfl⟩ := List.mem_map.1 hg
    obtain rfl : i = n := idOf_injective (Option.some.inj hid)
    rw [List.mk_mem_zipIdx_iff_getElem?, List.getElem?_eq_getElem hn] at hm
    rw [Option.some.inj hm]
  · rintro rfl
    exact ⟨List.mem_map.2 ⟨_, List.mk_mem_zipIdx_iff_getElem?.2 (List.getElem?_eq_getElem hn), rfl⟩, rfl⟩

/-- **C20, endpoints in range.**  In a written-and-read template every edge whose endpoints are locations of the template
    refers to ids that occur on a location element, and the init reference does too. -/
theorem C20_refs_in_range (c : WCfg) (t : WTempl) (e : WEdge) (he : e ∈ t.edges) (n m : Nat)
    (hs : e.src = .loc n) (hd : e.dst = .loc m) (hn : n < t.locs.length) (hm : m < t.locs.length) :
    ∃ ge ∈ (gtemplOf c t).edges, ge = gedgeOf c e ∧
      ge.src ∈ (gtemplOf c t).locs.map (·.id) ∧ ge.tgt ∈ (gtemplOf c t).locs.map (·.id) := by
  refine ⟨gedgeOf c e, List.mem_map.mpr ⟨e, he, rfl⟩, rfl, ?_, ?_⟩
  · rw [gtemplOf_ids]
    exact List.mem_map.2 ⟨n, List.mem_range.2 hn, by rw [gedgeOf, hs]; rfl⟩
  · rw [gtemplOf_ids]
    exact List.mem_map.2 ⟨m, List.mem_range.2 hm, by rw [gedgeOf, hd]; rfl⟩

/-- **C20, counts.**  Outside the exception shapes the written tree has exactly one template element per template, one
    location element per location and one transition per edge, in the document's order. -/
theorem C20_counts (c : WCfg) (d : WDoc) (h : docShapes c d = []) :
    ∃ g, (writeXml c d).map readGraph = some g ∧ g.length = d.templs.length ∧
      g.map (fun t => (t.locs.length, t.edges.length)) = d.templs.map (fun t => (t.locs.length, t.edges.length)) := by
  refine ⟨graphOf c d, C20_partial c d h, by simp [graphOf], ?_⟩
  simp [graphOf, gtemplOf, List.map_map, Function.comp_def]

def wEdgeBase : WEdge :=
  { src := .loc 0, dst := .loc 0, ctrl := true, select := [], guard := some .one, sync := none, assign := some .one, prob := some .one }

def wLocBase : WLoc := { name := "L0", inv := none, rate := none, urgent := false, committed := false }

def wDocWith (e : WEdge) : WDoc := { templs := [{ name := "T", locs := [wLocBase], bps := ["_b"], init := some 0, edges := [e] }] }

def witness : Shape → WDoc
  | .probabilityDropped => wDocWith { wEdgeBase with prob := some (.plain "3") }
  | .selectBindingsDropped =>
    wDocWith { wEdgeBase with select := [{ id := "i", ty := "idT", named := true }, { id := "j", ty := "idT", named := true }] }
  | .selectTypeDropped => wDocWith { wEdgeBase with select := [{ id := "i", ty := "int[0,3]", named := false }] }
  | .controllableDropped => wDocWith { wEdgeBase with ctrl := false }
  | .branchpointEndpoint => wDocWith { wEdgeBase with dst := .bp 0 }
  | .urgentAndCommitted =>
    { templs := [{ name := "T", locs := [{ wLocBase with urgent := true, committed := true }], bps := [], init := some 0, edges := [] }] }
  | .noInit => { templs := [{ name := "T", locs := [wLocBase], bps := [], init := none, edges := [] }] }
  | .unboundProcess =>
    { templs := [{ name := "T", locs := [wLocBase], bps := [], init := some 0, edges := [] }],
      procs := [{ name := "P", isTempl := false, bound := [false, true] }] }

/-- every shape occurs in its witness, and on the witness the written graph differs from the document's graph
    (or the writer crashes) -/
theorem C20_witness (s : Shape) :
    s ∈ docShapes ⟨false, false, false, false⟩ (witness s) ∧
    (writeXml ⟨false, false, false, false⟩ (witness s)).map readGraph ≠ some (graphOf ⟨false, false, false, false⟩ (witness s)) := by
  cases s <;> decide

/-- the shapes that the writer of the *current* source has: computed from the generated tables -/
def sourceShapes : List Shape := (List.map (fun s => (s, docShapes cfgOfSource (witness s))) [Shape.probabilityDropped,
  .selectBindingsDropped, .selectTypeDropped, .controllableDropped, .branchpointEndpoint, .urgentAndCommitted, .noInit,
  .unboundProcess]).filterMap fun p => if p.2.contains p.1 then some p.1 else none

/-! ### tie to the current source (tables generated by translate/xml_tables.py) -/

def allLabelsEdge : WEdge :=
  { src := .loc 0, dst := .loc 0, ctrl := false, select := [{ id := "i", ty := "T", named := true }], guard := some (.plain "g"),
    sync := some (.plain "s"), assign := some (.plain "a"), prob := some (.plain "p") }

def allLabelsLoc : WLoc := { name := "L", inv := some (.plain "i"), rate := some (.plain "r"), urgent := false, committed := false }

/-- the label kinds the model writes, in order, are exactly the `label("kind", ..)` calls of `XMLWriter::labels` and
    `XMLWriter::location`; the attributes of a transition are those of `XMLWriter::transition`; `XMLWriter::label`
    skips "1" and strips "1 && "; whether only `select[0]` or every binding with its declared type is written is read off the source -/
theorem C20_tables :
    ((wEdgeLabels cfgOfSource allLabelsEdge).filterMap lblF).map (·.1) = Gen.XmlTables.writerEdgeLabels ∧
    ((wLocKids (allLabelsLoc, 0)).filterMap lblF).map (·.1) = Gen.XmlTables.writerLocLabels ∧
    (wEdgeAttrs cfgOfSource allLabelsEdge).map (·.1) = Gen.XmlTables.writerTransitionAttributes ∧
    Gen.XmlTables.writerSkips = ["1"] ∧ Gen.XmlTables.writerStrips = ["1 && "] ∧
    cfgOfSource.sel = (Gen.XmlTables.writerSelectAll && Gen.XmlTables.writerSelectDeclared) := by
  decide +kernel

end UtapModel.AM
