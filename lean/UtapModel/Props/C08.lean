/- C08: parsed documents satisfy the structural invariants clients rely on.

   Model: `UtapModel.Model.Builder` (state machine behind ParserBuilder, abstract document with explicit object
   identities standing for the `void*` user data of symbols).  `Inv` (Model/BuilderInv.lean) is the conjunction the
   property lists:
     own       every variable / location / branchpoint / function / template / instance / process is the user object
               of its own symbol;
     backLoc/backBp/backInst  conversely a location / branchpoint / instance symbol points at an object of that kind
               that names it (this is what makes `static_cast<location_t*>(sym.get_data())` in add_edge,
               instantiation_end and process meaningful);
     edges     every edge has exactly one source and exactly one target pointer, of the right kinds;
     numLoc/numBp/numEdge  numbers are dense and in creation (= source) order within each template;
     insts     unbound parameters first, type arity = #unbound, mapping = exactly the bound parameters.
   The theorems hold for EVERY callback sequence (no assumption that it comes from a valid input): all error and
   throw branches of the callbacks are part of `step`.
   `step` is taken apart into elementary operations once (`step_builds`, Lemmas/C08Build.lean); each invariant is shown
   for the operations (Lemmas/C08.lean, C08Scope.lean, C08Own.lean, C08Init.lean).  This file: property theorems only. -/
import UtapModel.Lemmas.C08
import UtapModel.Lemmas.C08Own
import UtapModel.Lemmas.C08Init

namespace UtapModel.Builder

/-- the freshly constructed Document + DocumentBuilder -/
theorem C08_init : Inv BState.init := by
  unfold Inv
  constructor
  · intro r sid h; cases r <;> cases h
  · intro sid sym h; cases h
  · intro sid sym h; cases h
  · intro sid sym a h; cases h
  · intro i l h; cases h
  · intro i b h; cases h
  · intro t T i e h; cases h
  · intro t T i e h; cases h
  · intro r I h; cases r <;> cases h

/-- every ParserBuilder callback, in every state, on every branch (diagnostic recorded / exception thrown included),
    preserves the invariant -/
theorem C08_step (s : BState) (c : Call) (h : Inv s) : Inv (step s c) :=
  (step_builds s c).inv h

/-- hence every state reachable by ANY callback sequence satisfies the invariant -/
theorem C08_reachable (cs : List Call) : Inv (run BState.init cs) :=
  run_inv C08_step cs _ C08_init

-- the hypothesis of C08_step is satisfiable by a non-trivial state (a template with two locations, an edge, an instance and a process):
example : let s := run BState.init [.procBegin "P" true, .procLocation "A" false false, .procLocation "A" false false,
      .procLocationInit "A", .procEdgeBegin "A" "A" true, .procEdgeEnd, .procEnd,
      .instantiationBegin "Q" "P", .instantiationEnd "Q" "P" 0, .process "Q"]
    Inv s ∧ s.doc.locs.length = 2 ∧ (s.doc.templates.map (·.edges.length)) = [1] ∧ s.doc.insts.length = 2 :=
  ⟨C08_reachable _, by decide, by decide, by decide⟩

/-- reading of `own` for the object kinds the property names: in every reachable state the symbol of the i-th
    location (variable, branchpoint, function, template, instance/process) has that very object as user data -/
theorem C08_user_object (cs : List Call) (r : Obj) (sid : SymId) (h : (run BState.init cs).doc.uidOf r = some sid) :
    symUser (run BState.init cs).syms sid = some r :=
  (C08_reachable cs).own r sid h

/-- every edge of every reachable document has exactly one source and one target, a location or a branchpoint -/
theorem C08_edge_endpoints (cs : List Call) (t : Nat) (T : Templ) (i : Nat) (e : Edge)
    (hT : (run BState.init cs).doc.templates[t]? = some T) (he : T.edges[i]? = some e) : EdgeOk e ∧ e.nr = i :=
  ⟨(C08_reachable cs).edges t T i e hT he, (C08_reachable cs).numEdge t T i e hT he⟩

/-- instances: unbound parameters first, arity = #unbound, mapping domain = bound parameters -/
theorem C08_instances (cs : List Call) (r : Obj) (I : Inst) (h : (run BState.init cs).doc.inst? r = some I) :
    InstOk (run BState.init cs).syms I :=
  (C08_reachable cs).insts r I h

/-- "maps exactly its bound parameters to argument expressions": the keys of the mapping are pairwise distinct and are precisely the
    bound parameters, so every bound parameter has one argument expression and nothing else has any -- at every instantiation level,
    whatever the parameters are called (keys are symbols, not names) -/
theorem C08_mapping_exact (cs : List Call) (r : Obj) (I : Inst) (h : (run BState.init cs).doc.inst? r = some I) :
    (I.mapping.map Prod.fst).Nodup ∧ ∀ x, x ∈ I.mapping.map Prod.fst ↔ x ∈ I.params.drop I.unbound := by
  have hI := (C08_reachable cs).insts r I h
  exact ⟨hI.mapKeys, fun x => mem_keys.trans (hI.mapDom x)⟩

/-! ### clauses that depend on the callers' scope discipline

   `SafeRun s cs` (Lemmas/C08Own.lean): every popping callback other than proc_end (and decl_external_func, which pops the
   frame it has pushed itself) is issued when the frame on top of the stack is neither the global frame's sole entry nor the
   frame of the template being parsed -- i.e. it removes a frame that was pushed after the template was entered.  This is
   what the grammar and the XML reader guarantee (every pop sits behind its push in straight-line code; error recovery can
   only drop pops, never add them); it is evaluated on every real callback trace by drv_c08 (`S ok`).  Without it the
   clauses are false of the *model*: proc_begin A, proc_begin B, proc_edge_end, proc_edge_begin would attach A's
   locations to an edge of B. -/

/-- every edge has its source and its target in the edge's own template -/
theorem C08_own_template (cs : List Call) (hs : SafeRun BState.init cs) (t : Nat) (T : Templ) (e : Edge)
    (hT : (run BState.init cs).doc.templates[t]? = some T) (he : e ∈ T.edges) :
    (∀ i, e.src = some (.loc i) → ∃ l, (run BState.init cs).doc.locs[i]? = some l ∧ l.templ = t) ∧
    (∀ i, e.srcb = some (.bp i) → ∃ b, (run BState.init cs).doc.bps[i]? = some b ∧ b.templ = t) ∧
    (∀ i, e.dst = some (.loc i) → ∃ l, (run BState.init cs).doc.locs[i]? = some l ∧ l.templ = t) ∧
    (∀ i, e.dstb = some (.bp i) → ∃ b, (run BState.init cs).doc.bps[i]? = some b ∧ b.templ = t) := by
  obtain ⟨_, ho⟩ := scope_reachable cs BState.init Inv2_init OwnT_init hs
  obtain ⟨h1, h2, h3, h4⟩ := ho.edges t T e hT he
  exact ⟨fun _ hi => objTempl_loc (h1 _ hi), fun _ hi => objTempl_bp (h2 _ hi),
    fun _ hi => objTempl_loc (h3 _ hi), fun _ hi => objTempl_bp (h4 _ hi)⟩

/-- a template's initial location, once set, is one of the template's own locations (and `init` is that location's symbol) -/
theorem C08_init_own_location (cs : List Call) (hs : SafeRun BState.init cs) (t : Nat) (T : Templ) (sid : SymId)
    (hT : (run BState.init cs).doc.templates[t]? = some T) (hi : T.init = some sid) :
    ∃ i l, symUser (run BState.init cs).syms sid = some (.loc i) ∧ (run BState.init cs).doc.locs[i]? = some l ∧
      l.templ = t ∧ l.uid = sid := by
  obtain ⟨_, ho⟩ := scope_reachable cs BState.init Inv2_init OwnT_init hs
  obtain ⟨hown, sym, hsym, hloc⟩ := ho.init t T sid hT hi
  obtain ⟨i, hu, hd⟩ := (C08_reachable cs).backLoc sid sym hsym hloc
  have hsu : symUser (run BState.init cs).syms sid = some (.loc i) := (symUser_eq hsym).trans hu
  rw [hsu] at hown
  obtain ⟨l, hl, ht⟩ := objTempl_loc hown
  exact ⟨i, l, hsu, hl, ht, by simpa [Doc.uidOf, hl] using hd⟩

-- the hypothesis is satisfiable by a non-trivial list (two templates, edges in both, an abandoned quantifier frame in between):
example : SafeRun BState.init [.procBegin "A" true, .procLocation "a" false false, .procLocationInit "a", .procEdgeBegin "a" "a" true,
    .frag 0 1, .frag 0 1, .typePrim true 2 false, .quantBegin "i", .handleError, .procEdgeEnd, .procEnd,
    .procBegin "B" true, .procLocation "a" false false, .procLocationInit "a", .procEdgeBegin "a" "a" true, .procEdgeEnd, .procEnd] := by
  simp only [SafeRun]; decide

/-- "normal return and no errors => every TA template has an initial location": if the reader follows the protocol
    `initShape` (Model/BuilderInv.lean: a TA template is entered outside any template, and before its proc_end the reader issues
    proc_location_init or records a diagnostic) and no diagnostic was recorded, every (non-dynamic) TA template has `init` set;
    with `C08_init_own_location` it is one of the template's own locations.
    The XML reader follows the protocol (xmlreader.cpp templ()/init(): "$Missing_initial_location"); the XTA grammar does
    not: `ProcBody` has an empty alternative -- see `C08_empty_body_witness` and the known finding. -/
theorem C08_init_location (cs : List Call) (hshape : initShape false cs = true) (hclean : (run BState.init cs).diags = 0)
    (t : Nat) (T : Templ) (hT : (run BState.init cs).doc.templates[t]? = some T) (hta : T.isTA = true) (hdy : T.dynamic = false) :
    T.init.isSome = true := by
  have := init_location_run cs BState.init false InitInv_init hshape hclean
  rcases this t T hT hta hdy with h | ⟨h, _⟩
  · exact h
  · cases h

-- hypotheses satisfiable: a template with a location and its init
example : initShape false [.procBegin "P" true, .procLocation "A" false false, .procLocationInit "A", .procEnd] = true ∧
    (run BState.init [.procBegin "P" true, .procLocation "A" false false, .procLocationInit "A", .procEnd]).diags = 0 := by decide

/-- the exception: the callbacks of XTA `process P() { }` (proc_begin, proc_end) violate the protocol, record no diagnostic and
    leave a TA template without initial location -- the negation of the init clause on a concrete witness -/
theorem C08_empty_body_witness :
    initShape false [.procBegin "P" true, .procEnd] = false ∧
    (run BState.init [.procBegin "P" true, .procEnd]).diags = 0 ∧
    ((run BState.init [.procBegin "P" true, .procEnd]).doc.templates.map (fun T => (T.isTA, T.dynamic, T.init))) = [(true, false, none)] := by
  decide

end UtapModel.Builder
