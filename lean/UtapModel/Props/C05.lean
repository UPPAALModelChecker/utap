/- C05 -- XML and XTA renderings of the same model yield equivalent documents.

   Model: `renderXta prefs M : XFile` and `xtaRead : XFile → List Call` (Model/Xta.lean: the process productions of
   src/parser.y with the static `rootTransId`), the XML side `readXml (renderXml M)` (Model/Xml.lean), the builder
   `build` (Model/XmlBuild.lean).  Helper lemmas: Lemmas/C05.lean (and those of C04).
   Diagnostics of the type checker and the supported-methods verdict are functions of the built document
   (`static_analysis(doc)` in src/typechecker.cpp never looks at the front end); their equality is therefore a
   consequence of document equality *in the model* and is additionally compared on the real library by checks/c05.py. -/
import UtapModel.Lemmas.C05
import UtapModel.Props.C04
namespace UtapModel.AM

/-- `sampleModel` of C04 with the edge labels in grammar order (XTA has no other order) -/
def sampleModelXta : AModel :=
  { sampleModel with
    templates := sampleModel.templates.map fun t =>
      { t with edges := (t.edges.map fun e =>
          { e with labels := match e.labels with
                             | [.select bs, .assign a, .guard g, .sync s d] => [.select bs, .guard g, .sync s d, .assign a]
                             | [.prob p, .assign a] => [.assign a, .prob p]
                             | ls => ls }) ++ [{ src := "id2", tgt := "id0", ctrl := some false, labels := [.guard "e13"] }] } }

example : sampleModelXta.inCommonSubset = true := by decide +kernel

/-- the sample exercises the chained form: with the preference "chain wherever possible" the second edge out of the
    branchpoint cannot be chained (it has a probability), the second edge out of L2 is -/
example : ((renderXta [true, true, true, true, true, true] sampleModelXta).procs.map (fun p => p.trans.map fun x =>
    match x with | .full .. => "full" | .chained .. => "chained")) = [["full", "full", "full", "full", "full", "chained"]] := by decide +kernel

/-- **C05, XTA side.**  For every model of the common subset and every choice of where to use chained transitions, the
    document built from the XTA rendering is the document the model denotes. -/
theorem C05_xta_document (M : AModel) (prefs : List Bool) (h : M.inCommonSubset = true) :
    (build (xtaRead (renderXta prefs M))).doc = docOf M ∧ (build (xtaRead (renderXta prefs M))).frags = [] ∧
    (build (xtaRead (renderXta prefs M))).cur = none ∧ (build (xtaRead (renderXta prefs M))).edge = none := by
  rw [build_xtaRead M prefs h, ← C04_reader M (wf_of_common h)]
  exact C04_roundtrip M (wf_of_common h)

/-- **C05.**  The XML rendering and the XTA rendering of a model of the common subset build the same document
    (declarations, templates, parameters, locations with labels and flags, branchpoints, init, edges with endpoints,
    controllable flag and labels, instances with their bindings, processes and priorities): the input format is not
    observable in the result.  In particular the place of the commit / urgent lists (after all states in XTA, after each
    location in XML), the chained transition form with `rootTransId`, and `-u->` versus `controllable="false"` do not
    matter. -/
theorem C05_equivalent (M : AModel) (prefs : List Bool) (h : M.inCommonSubset = true) :
    (build (xtaRead (renderXta prefs M))).doc = (build (readXml (renderXml M))).doc := by
  rw [build_xtaRead M prefs h, C04_reader M (wf_of_common h)]

/-- the choice between full and chained transitions is not observable -/
theorem C05_chaining_irrelevant (M : AModel) (p q : List Bool) (h : M.inCommonSubset = true) :
    (build (xtaRead (renderXta p M))).doc = (build (xtaRead (renderXta q M))).doc := by
  rw [build_xtaRead M p h, build_xtaRead M q h]

/-! ### tie to the current grammar (tables generated by translate/xml_tables.py from src/parser.y) -/

open Gen.XmlTables in
/-- the process productions the XTA model relies on are those of the current grammar: the sections of a `Transition`
    (`labelRank` is their order) and of a `TransitionOpt` (no `Probability`), `->` / `-u->` ↦ controllable, `rootTransId`
    is written from `$1` of a full transition and used as the source of a chained one, the order of the parts of a
    process body (states, branchpoints, commit / urgent lists, init, transitions), and the four `proc_location` flag
    combinations of `StateDecl` -/
theorem C05_tables :
    xtaTransitionSections = ["Select", "Guard", "Sync", "Assign", "Probability"] ∧
    [ELabel.select [], .guard "", .sync "" .bang, .assign "", .prob ""].map labelRank = [0, 1, 2, 3, 4] ∧
    xtaTransitionOptSections = xtaTransitionSections.take 4 ∧
    xtaControl = [("T_ARROW", "true"), ("T_UNCONTROL_ARROW", "false")] ∧
    xtaRootSet = ["$1"] ∧ xtaRootUse = ["$2"] ∧
    xtaProcBody = [["ProcLocalDeclList", "States", "LocFlags", "Init", "Transitions"],
                   ["ProcLocalDeclList", "States", "Branchpoints", "LocFlags", "Init", "Transitions"]] ∧
    ((procRead "" (renderProc [] (sampleModelXta.templates.headD default))).map callName).eraseDups.filter
        (fun n => n ∈ ["proc_location", "proc_branchpoint", "proc_location_commit", "proc_location_urgent", "proc_location_init", "proc_edge_begin"])
      = ["proc_location", "proc_branchpoint", "proc_location_commit", "proc_location_urgent", "proc_location_init", "proc_edge_begin"] ∧
    xtaStateDecl = [("false", "false"), ("false", "true"), ("true", "false"), ("true", "true"), ("false", "false")] ∧
    [stateCalls ⟨"L", none, none⟩, stateCalls ⟨"L", none, some "r"⟩, stateCalls ⟨"L", some "i", none⟩, stateCalls ⟨"L", some "i", some "r"⟩]
      = [[.procLocation "L" false false], [.pushExpr "r", .procLocation "L" false true],
         [.pushExpr "i", .procLocation "L" true false], [.pushExpr "i", .pushExpr "r", .procLocation "L" true true]] := by
  decide +kernel

end UtapModel.AM
