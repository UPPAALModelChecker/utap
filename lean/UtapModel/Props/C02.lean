/-
C02 — parsed expression trees follow the language's precedence and associativity.

Objects:
* `Pratt.Tbl`, `parseTop`, `render` (Model/Pratt.lean): the operator-precedence reading of the `Expression` grammar;
* `parseList`, `renderList` (Model/ExprList.lean): the comma list `ExprList` around it; which side its recursion is on is regenerated;
* `ExprTable.utapT` : the table *regenerated on every run* from parser.y's %left/%right block, the `Expression`,
  `Assignment`, `AssignOp`, `UnaryOp`, `BuiltinFunction1-3` productions with their %prec annotations and builder
  callbacks (translate/exprgrammar.py → Gen/ExprGrammar.lean);
* `Spec.specData` : the UPPAAL operator table written by hand (Spec/OperatorTable.lean), the reference.

The general theorems are proved for *every* table (Lemmas/Pratt*.lean, by induction on renderings, no bound on size or
depth); the instance for today's grammar needs only finite facts about the generated table, discharged by `decide`.
An edit to parser.y changes Gen/ExprGrammar.lean, hence `utapT`, hence these obligations.
-/
import UtapModel.Lemmas.PrattRender
import UtapModel.Lemmas.ExprList
import UtapModel.Lemmas.LexNum
import UtapModel.Lemmas.StrCode
import UtapModel.Spec.OperatorTable

namespace UtapModel.C02
open UtapModel.Pratt UtapModel.ExprTable UtapModel.ExprGrammar UtapModel.Spec

/-- the one numeric fact the general theorem needs of a table: the inline-if production is not above the token `?` -/
theorem utapT_tern_le_quest : utapT.ternL ≤ utapT.questL := by decide

/-- **no identifier is silently cut**: every identifier length that the lexer does not report fits the token buffer whole
    (`identTooLongFrom`, `identBufKeeps`: regenerated from the identifier rule of lexer.l and MAXLEN of libparser.h) -/
theorem C02_identifier_not_truncated (n : Nat) (h : n < identTooLongFrom) : n ≤ identBufKeeps := by
  have : identTooLongFrom ≤ identBufKeeps + 1 := by decide
  omega

/-- **no string literal is silently cut**: the same for the token of a string literal (quotes included) -/
theorem C02_string_not_truncated (n : Nat) (h : n < stringTooLongFrom) : n ≤ identBufKeeps := by
  have : stringTooLongFrom ≤ identBufKeeps + 1 := by decide
  omega

/-- **The generated grammar table is the UPPAAL operator table**: same operators in the same roles with the same
resulting kinds, the same order of precedence levels and the same associativity per level (level *numbers* aside). -/
theorem utap_matches_spec : rows genData = rows specData := by
  -- every operator text of the reference table is looked up in the three lexer tables: the scans compare codes (Lemmas/StrCode.lean)
  simp only [specData, entries, levelOfRole, tokOfText, tokId, List.idxOf, StrCode.beq_eq_code]
  decide +kernel

/-- the builtin functions of the generated grammar (`BuiltinFunction1-3` of parser.y joined with the keyword table of keywords.cpp): the
    spelling in the text, the kind of the node the parser builds, the number of arguments -/
def genBuiltins : List (String × String × Nat) :=
  fnProds.filterMap (fun f => (keywordsNew.find? (fun kw => kw.2 == f.1)).map (fun kw => (kw.1, f.2.1, f.2.2)))

/-- **Every builtin function name builds the node kind and takes the number of arguments the language reference gives it**, and the
    grammar has no others. -/
theorem utap_builtins_match_spec :
    (∀ x ∈ builtinSpec, x ∈ genBuiltins) ∧ (∀ x ∈ genBuiltins, x ∈ builtinSpec) ∧ genBuiltins.length = builtinSpec.length ∧
    genBuiltins.length = fnProds.length := by
  -- the keyword table is scanned once for every builtin function
  simp only [genBuiltins, StrCode.beq_eq_code]
  decide +kernel

/-- every infix / prefix / postfix operator of the generated grammar can occur in a tree of the fragment the round-trip
theorems speak about (so the fragment is the full operator set, and the theorems are not vacuous) -/
theorem fragment_bin : ∀ x ∈ binProds, utapT.isBin x.1 = true ∧ utapT.isImply x.1 = false ∧ utapT.isPost x.1 = false := by
  decide +kernel
theorem fragment_pre : ∀ x ∈ preProds, utapT.isPre x.1 = true := by decide +kernel
theorem fragment_post : ∀ x ∈ postProds, utapT.isPost x.1 = true ∧ utapT.isBin x.1 = false := by decide +kernel
theorem fragment_intMin : utapT.isPre mt = true ∧ utapT.isMinus mt = true := by decide +kernel

/-- **parse (render_min t) = t** for every tree over the operator set of the grammar: unary, binary, assignment family,
inline-if, indexing, field access, calls with any number of arguments, builtin functions, quantifiers, rate;
all literal atoms including -2147483648.  `wf` only says that each node uses an operator token in its own role. -/
theorem C02_min (e : Expr) (h : wf utapT mt false e = true) : parseTop utapT (render utapT mt false 0 e) = some e :=
  roundtrip utapT mt utapT_tern_le_quest false e h

/-- **parse (render_full t) = t**: every operator node parenthesised -/
theorem C02_full (e : Expr) (h : wf utapT mt false e = true) : parseTop utapT (render utapT mt true 0 e) = some e :=
  roundtrip utapT mt utapT_tern_le_quest true e h

/-- any rendering with *redundant* parentheses anywhere (the relation `R`) parses to the same tree -/
theorem C02_redundant_parens {e : Expr} {ts : List Tok} (h : R utapT mt false 0 e ts) : parseTop utapT ts = some e :=
  roundtrip_R utapT mt utapT_tern_le_quest h

/-- the same round trips hold for the reference table, i.e. the reference table is itself a consistent grammar -/
theorem C02_spec_min (e : Expr) (h : wf specT specData.minus false e = true) :
    parseTop specT (render specT specData.minus false 0 e) = some e :=
  roundtrip specT specData.minus (by decide) false e h

/-- keyword aliases: `and`/`&&`, `or`/`||` are infix operators of the same level and kind; `not`/`!` prefix operators of
the same level and kind; `:=` and `=` are one token -/
theorem C02_aliases :
    (utapT.bp (tokOfText "and") = utapT.bp (tokOfText "&&") ∧ binKind genData (tokOfText "and") = binKind genData (tokOfText "&&")) ∧
    (utapT.bp (tokOfText "or") = utapT.bp (tokOfText "||") ∧ binKind genData (tokOfText "or") = binKind genData (tokOfText "||")) ∧
    (utapT.pp (tokOfText "not") = utapT.pp (tokOfText "!") ∧ preKind genData (tokOfText "not") = preKind genData (tokOfText "!")) ∧
    tokOfText ":=" = tokOfText "=" := by decide +kernel

/-- unary plus is the identity -/
theorem C02_unary_plus {e : Expr} {ts : List Tok} (hR : R utapT mt false (utapT.mn (utapT.pp (tokOfText "+"))) e ts) :
    parseTop utapT (.sym (tokOfText "+") :: ts) = some e :=
  have h : utapT.isPre (tokOfText "+") = true ∧ utapT.prePlus (tokOfText "+") = true := by decide +kernel
  unary_plus utapT mt utapT_tern_le_quest h.1 h.2 hR

/-- `a imply b` is `!a || b` -/
theorem C02_imply {a b : Expr} {ta tb : List Tok}
    (ha : R utapT mt false (utapT.lctx (utapT.bp (tokOfText "imply"))) a ta)
    (hb : R utapT mt false (utapT.mn (utapT.bp (tokOfText "imply"))) b tb) :
    parseTop utapT (ta ++ [.sym (tokOfText "imply")] ++ tb) =
      some (.bin (tokOfText "||") (.pre (tokOfText "!") a) b) := by
  -- one evaluation for all that is asked of the tables, the tokens of `||` and `!` included (the unifier would compute them otherwise)
  obtain ⟨h1, h2, h3, ho, hn⟩ : utapT.isBin (tokOfText "imply") = true ∧ utapT.isImply (tokOfText "imply") = true ∧
      utapT.isPost (tokOfText "imply") = false ∧ utapT.orTok = tokOfText "||" ∧ utapT.notTok = tokOfText "!" := by decide +kernel
  rw [← ho, ← hn]
  exact imply_parse utapT mt utapT_tern_le_quest h1 h2 h3 ha hb

/-- integer literals: exact, or the INT_MIN token, or rejected with `$Overflow` — never silently changed -/
theorem C02_int_literal (n k : Nat) :
    lexNum (List.replicate k '0' ++ Nat.toDigits 10 n) =
      if n ≤ 2147483647 then .nat n else if n = 2147483648 then .posNegMax else .overflow :=
  lexNum_exact n k

/-- `- 2147483648` is the constant INT_MIN -/
theorem C02_int_min : parseTop utapT [.sym mt, .posNegMax] = some (.atom .intMin) := by decide +kernel

/-! ### comma lists (`ExprList`: update labels, `for (;;)` clauses, `while` / `if` / `switch` heads, before_update / after_update) -/

/-- the recursion of the generated `ExprList` rule is on the side the reference table prescribes -/
theorem utap_comma_matches_spec : exprListLeftRec = commaLeftAssoc := by decide

/-- **a comma list of any length nests to the left**: rendering the elements `e, x₁, …, xₙ` (minimally or fully parenthesised) and
parsing the text with today's grammar gives COMMA(…COMMA(COMMA(e, x₁), x₂)…, xₙ) -/
theorem C02_comma_list (full : Bool) (e : Expr) (es : List Expr) (he : wf utapT mt false e = true)
    (hes : ∀ x ∈ es, wf utapT mt false x = true) :
    parseList utapT exprListLeftRec (renderList utapT mt full e es) = some (nestLeft (.one e) es) := by
  have h := parseList_render utapT mt utapT_tern_le_quest full exprListLeftRec e es he hes
  have hl : exprListLeftRec = true := by decide
  simpa only [nest, hl, if_true] using h

/-- why lists of one and two elements say nothing about the side of the recursion, and lists of three do -/
theorem C02_comma_two (e : Expr) (es : List Expr) (h : es.length ≤ 1) : nest true e es = nest false e es := nest_le_two e es h
theorem C02_comma_three_differ (a b c : Expr) : nest true a [b, c] ≠ nest false a [b, c] := by
  simp [nest, nestLeft, nestRight]

/-! ### non-vacuity: concrete trees of the fragment, and what their renderings look like -/
example : wf utapT mt false
    (.bin (tokOfText "=") (.atom (.ident "a")) (.tern (.bin (tokOfText "<") (.atom (.ident "b")) (.atom (.nat 3)))
      (.pre (tokOfText "-") (.index (.atom (.ident "c")) (.atom .intMin)))
      (.call (.atom (.ident "f")) (.acons (.atom (.nat 1)) (.acons (.post (tokOfText "++") (.atom (.ident "d"))) .anil))))) = true := by
  decide +kernel
example : toksText (render utapT mt false 0
    (.bin (tokOfText "*") (.bin (tokOfText "+") (.atom (.ident "a")) (.atom (.ident "b"))) (.atom (.ident "c")))) = "( a + b ) * c" := by
  decide +kernel

end UtapModel.C02
