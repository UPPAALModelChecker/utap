/-
C18 — interval operations of `range_t` agree with their set semantics.

The definitions these theorems speak about are in `Gen/RangeGen.lean`, which `translate/range_h.py` regenerates
from `/repo/include/utap/range.h` on every run (integral instantiation of `T`, arithmetic in `Int`, i.e. exactly
the property's "results do not overflow the type").  A change to `range.h` therefore changes the definitions
below and each theorem is re-checked against what the code says now.  The proofs unfold the generated
definitions and leave the comparison to `omega'` (below), instead of applying order lemmas to the unfolded term, so that a
respelling of `range.h` that computes the same (the arguments of a `std::min` or `std::max` exchanged, a `?:` for one of
them, an operation written out inside its caller) does not break them.

Membership is the set-theoretic reading of the interval: `x ∈ r ↔ r.start ≤ x ∧ x ≤ r.finish`.
Every theorem is unbounded (all integers); nothing is enumerated.
-/
import UtapModel.Gen.RangeGen
import UtapModel.Lemmas.C18

namespace UtapModel.C18
open UtapModel.RangeGen

/-- set-theoretic membership -/
def Mem (x : Int) (r : Range) : Prop := r.start ≤ x ∧ x ≤ r.finish

/-- non-empty interval (the property's hypothesis on operands) -/
def NonEmpty (r : Range) : Prop := r.start ≤ r.finish

instance (x : Int) (r : Range) : Decidable (Mem x r) := by unfold Mem; infer_instance

/-- `omega`, after splitting any `if`/`match` that a rewrite of `range.h` may have introduced
    (e.g. `a < b ? b : a` instead of `std::max(a, b)`), so that harmless rewrites keep the proofs intact. -/
macro "omega'" : tactic =>
  `(tactic| first
    | omega
    | (simp only [decide_eq_true_eq, Bool.and_eq_true, Bool.or_eq_true, Bool.not_eq_true'] at *
       repeat' (first | omega | split)
       all_goals (simp only [decide_eq_true_eq, decide_eq_false_iff_not] at *; omega)))

theorem NonEmpty.start_mem {r : Range} (h : NonEmpty r) : Mem r.start r := ⟨Int.le_refl _, h⟩
theorem NonEmpty.finish_mem {r : Range} (h : NonEmpty r) : Mem r.finish r := ⟨h, Int.le_refl _⟩

/-! ### bounds: gt / geq / lt / leq keep exactly the members satisfying the bound -/

theorem mem_gt (r : Range) (l x : Int) : Mem x (r.gt l) ↔ Mem x r ∧ l < x := by
  simp only [Mem, Range.gt, next_value]
  omega'

theorem mem_geq (r : Range) (l x : Int) : Mem x (r.geq l) ↔ Mem x r ∧ l ≤ x := by
  simp only [Mem, Range.geq]
  omega'

theorem mem_lt (r : Range) (u x : Int) : Mem x (r.lt u) ↔ Mem x r ∧ x < u := by
  simp only [Mem, Range.lt, prev_value]
  omega'

theorem mem_leq (r : Range) (u x : Int) : Mem x (r.leq u) ↔ Mem x r ∧ x ≤ u := by
  simp only [Mem, Range.leq]
  omega'

/-! ### intersection is exact (all spellings: `&=`, `&`, intersect, intersection; range and element) -/

theorem mem_andAssignR (a b : Range) (x : Int) : Mem x (a.andAssignR b) ↔ Mem x a ∧ Mem x b := by
  simp only [Range.andAssignR, mem_leq, mem_geq]
  simp only [Mem]
  omega'

theorem mem_andR (a b : Range) (x : Int) : Mem x (a.andR b) ↔ Mem x a ∧ Mem x b :=
  mem_andAssignR a b x

theorem mem_intersectR (a b : Range) (x : Int) : Mem x (a.intersectR b) ↔ Mem x a ∧ Mem x b :=
  mem_andAssignR a b x

theorem mem_intersectionR (a b : Range) (x : Int) : Mem x (a.intersectionR b) ↔ Mem x a ∧ Mem x b :=
  mem_andAssignR a b x

theorem mem_andAssignT (a : Range) (e x : Int) : Mem x (a.andAssignT e) ↔ Mem x a ∧ x = e := by
  simp only [Range.andAssignT, mem_leq, mem_geq]
  simp only [Mem]
  omega'

theorem mem_andT (a : Range) (e x : Int) : Mem x (a.andT e) ↔ Mem x a ∧ x = e :=
  mem_andAssignT a e x

theorem mem_intersectT (a : Range) (e x : Int) : Mem x (a.intersectT e) ↔ Mem x a ∧ x = e :=
  mem_andAssignT a e x

theorem mem_intersectionT (a : Range) (e x : Int) : Mem x (a.intersectionT e) ↔ Mem x a ∧ x = e :=
  mem_andAssignT a e x

/-! ### convex union is exact: it contains both operands and is contained in every interval that does -/

theorem union_contains (a b : Range) (x : Int) (h : Mem x a ∨ Mem x b) : Mem x (a.orAssignR b) := by
  simp only [Mem, Range.orAssignR, Range.lower, Range.raise] at *
  omega'

/-- convex union, as a membership characterisation: the members are exactly the points between two members -/
theorem mem_union (a b : Range) (ha : NonEmpty a) (hb : NonEmpty b) (x : Int) :
    Mem x (a.orAssignR b) ↔ ∃ p q, (Mem p a ∨ Mem p b) ∧ (Mem q a ∨ Mem q b) ∧ p ≤ x ∧ x ≤ q := by
  constructor
  · intro h
    -- the end points of the union are end points of the operands
    have lo : Mem (a.orAssignR b).start a ∨ Mem (a.orAssignR b).start b := by
      simp only [Mem, NonEmpty, Range.orAssignR, Range.lower, Range.raise] at *
      omega'
    have hi : Mem (a.orAssignR b).finish a ∨ Mem (a.orAssignR b).finish b := by
      simp only [Mem, NonEmpty, Range.orAssignR, Range.lower, Range.raise] at *
      omega'
    exact ⟨_, _, lo, hi, h.1, h.2⟩
  · rintro ⟨p, q, hp, hq, h1, h2⟩
    exact ⟨Int.le_trans (union_contains a b p hp).1 h1, Int.le_trans h2 (union_contains a b q hq).2⟩

theorem union_tightest (a b c : Range) (ha : NonEmpty a) (hb : NonEmpty b)
    (hca : ∀ x, Mem x a → Mem x c) (hcb : ∀ x, Mem x b → Mem x c) (x : Int) :
    Mem x (a.orAssignR b) → Mem x c := by
  intro h
  obtain ⟨p, q, hp, hq, h1, h2⟩ := (mem_union a b ha hb x).1 h
  exact ⟨Int.le_trans (hp.elim (hca p) (hcb p)).1 h1, Int.le_trans h2 (hq.elim (hca q) (hcb q)).2⟩

theorem orR_eq (a b : Range) : a.orR b = a.orAssignR b := rfl
theorem uniteR_eq (a b : Range) : a.uniteR b = a.orAssignR b := rfl
theorem addR_eq (a b : Range) : a.addR b = a.orAssignR b := rfl

theorem mem_orAssignT (a : Range) (ha : NonEmpty a) (e x : Int) :
    Mem x (a.orAssignT e) ↔ Mem x (a.orAssignR (Range.single e)) :=
  Iff.rfl

theorem orT_eq (a : Range) (e : Int) : a.orT e = a.orAssignT e := rfl
theorem uniteT_eq (a : Range) (e : Int) : a.uniteT e = a.orAssignT e := rfl
theorem addT_eq (a : Range) (e : Int) : a.addT e = a.orAssignT e := rfl

/-! ### arithmetic: the tightest interval containing all pointwise results -/

/-- `+` is exact on integers: the members of `a + b` are precisely the sums -/
theorem mem_add (a b : Range) (ha : NonEmpty a) (hb : NonEmpty b) (z : Int) :
    Mem z (a.addAssignR b) ↔ ∃ x y, Mem x a ∧ Mem y b ∧ z = x + y := by
  simp only [Mem, NonEmpty, Range.addAssignR, Range.first, Range.last] at *
  constructor
  · intro h
    by_cases hz : z - b.start ≤ a.finish
    · exact ⟨z - b.start, b.start, by omega⟩
    · exact ⟨a.finish, z - a.finish, by omega⟩
  · rintro ⟨x, y, h⟩; omega

theorem mem_sub (a b : Range) (ha : NonEmpty a) (hb : NonEmpty b) (z : Int) :
    Mem z (a.subAssignR b) ↔ ∃ x y, Mem x a ∧ Mem y b ∧ z = x - y := by
  simp only [Mem, NonEmpty, Range.subAssignR, Range.first, Range.last] at *
  constructor
  · intro h
    by_cases hz : z + b.finish ≤ a.finish
    · exact ⟨z + b.finish, b.finish, by omega⟩
    · exact ⟨a.finish, a.finish - z, by omega⟩
  · rintro ⟨x, y, h⟩; omega

theorem mem_addT (a : Range) (e z : Int) : Mem z (a.addAssignT e) ↔ ∃ x, Mem x a ∧ z = x + e := by
  simp only [Mem, Range.addAssignT]
  constructor
  · intro h; exact ⟨z - e, by omega⟩
  · rintro ⟨x, h⟩; omega

theorem mem_subT (a : Range) (e z : Int) : Mem z (a.subAssignT e) ↔ ∃ x, Mem x a ∧ z = x - e := by
  simp only [Mem, Range.subAssignT]
  constructor
  · intro h; exact ⟨z + e, by omega⟩
  · rintro ⟨x, h⟩; omega

theorem add_opR_eq (a b : Range) : a.add_opR b = a.addAssignR b := rfl
theorem sub_opR_eq (a b : Range) : a.sub_opR b = a.subAssignR b := rfl
theorem mul_opR_eq (a b : Range) : a.mul_opR b = a.mulAssignR b := rfl
theorem add_opT_eq (a : Range) (e : Int) : a.add_opT e = a.addAssignT e := rfl
theorem sub_opT_eq (a : Range) (e : Int) : a.sub_opT e = a.subAssignT e := rfl
theorem mul_opT_eq (a : Range) (e : Int) : a.mul_opT e = a.mulAssignT e := rfl

/-- `*`: every pointwise product lies in the result (four-corner lemma) -/
theorem mul_contains (a b : Range) (x y : Int) (hx : Mem x a) (hy : Mem y b) : Mem (x * y) (a.mulAssignR b) := by
  have h := mul_corners hx.1 hx.2 hy.1 hy.2
  simp only [Mem, Range.mulAssignR, Range.first, Range.last]
  omega'

/-- `*`: both bounds of the result are attained by members, so no tighter interval contains all products -/
theorem mul_tight (a b : Range) (ha : NonEmpty a) (hb : NonEmpty b) :
    (∃ x y, Mem x a ∧ Mem y b ∧ (a.mulAssignR b).start = x * y) ∧
    (∃ x y, Mem x a ∧ Mem y b ∧ (a.mulAssignR b).finish = x * y) := by
  -- every corner is a product of members, and each bound of the result is one of the corners
  have corner {t : Int}
      (h : t = a.start * b.start ∨ t = a.start * b.finish ∨ t = a.finish * b.start ∨ t = a.finish * b.finish) :
      ∃ x y, Mem x a ∧ Mem y b ∧ t = x * y := by
    rcases h with h | h | h | h
    · exact ⟨_, _, ha.start_mem, hb.start_mem, h⟩
    · exact ⟨_, _, ha.start_mem, hb.finish_mem, h⟩
    · exact ⟨_, _, ha.finish_mem, hb.start_mem, h⟩
    · exact ⟨_, _, ha.finish_mem, hb.finish_mem, h⟩
  constructor
  · apply corner
    simp only [Range.mulAssignR, Range.first, Range.last]
    omega'
  · apply corner
    simp only [Range.mulAssignR, Range.first, Range.last]
    omega'

/-- scalar `*`: contains every product and both bounds are attained -/
theorem mulT_contains (a : Range) (e x : Int) (hx : Mem x a) : Mem (x * e) (a.mulAssignT e) := by
  have h := mul_between e hx.1 hx.2
  simp only [Mem, Range.mulAssignT]
  split <;> simp only [decide_eq_true_eq] at * <;> omega

theorem mulT_tight (a : Range) (e : Int) (ha : NonEmpty a) :
    (∃ x, Mem x a ∧ (a.mulAssignT e).start = x * e) ∧ (∃ x, Mem x a ∧ (a.mulAssignT e).finish = x * e) := by
  simp only [Range.mulAssignT]
  split
  · exact ⟨⟨_, ha.finish_mem, rfl⟩, ⟨_, ha.start_mem, rfl⟩⟩
  · exact ⟨⟨_, ha.start_mem, rfl⟩, ⟨_, ha.finish_mem, rfl⟩⟩

theorem overlapsT_iff (r : Range) (e : Int) : r.overlapsT e = true ↔ Mem e r := by
  simp [Range.overlapsT, Mem]

theorem contains_iff (r : Range) (e : Int) : r.contains e = true ↔ Mem e r := overlapsT_iff r e

theorem intersects_iff (a b : Range) (ha : NonEmpty a) (hb : NonEmpty b) :
    a.intersects b = true ↔ ∃ x, Mem x a ∧ Mem x b := by
  simp only [Range.intersects, Range.overlapsR, Mem, NonEmpty] at *
  constructor
  · intro h
    split at h <;> simp only [decide_eq_true_eq] at *
    · exact ⟨b.start, by omega⟩
    · exact ⟨a.start, by omega⟩
  · rintro ⟨x, hx⟩
    split <;> simp only [decide_eq_true_eq] at * <;> omega

theorem overlapsR_iff (a b : Range) (ha : NonEmpty a) (hb : NonEmpty b) :
    a.overlapsR b = true ↔ ∃ x, Mem x a ∧ Mem x b := intersects_iff a b ha hb

theorem empty_iff (r : Range) : r.empty = true ↔ ¬ ∃ x, Mem x r :=
  decide_eq_true_iff.trans
    ⟨fun h ⟨_, hx⟩ => Int.not_le.2 h (Int.le_trans hx.1 hx.2),
     fun h => Int.not_le.1 fun hr : NonEmpty r => h ⟨_, hr.start_mem⟩⟩

/-- `==` decides equality of the member sets (also for empty operands) -/
theorem eq_iff (a b : Range) : a.eq_opR b = true ↔ ∀ x, Mem x a ↔ Mem x b := by
  simp only [Range.eq_opR, Range.empty, Mem, Bool.ite_eq_true_distrib, Bool.or_eq_true, beq_iff_eq, decide_eq_decide,
    Bool.and_eq_true, decide_eq_true_eq]
  constructor
  · intro h x
    split at h <;> omega
  · intro h
    have alo := h a.start
    have ahi := h a.finish
    have blo := h b.start
    have bhi := h b.finish
    split <;> omega

theorem eqT_iff (a : Range) (e : Int) : a.eq_opT e = true ↔ ∀ x, Mem x a ↔ x = e :=
  (eq_iff a (.single e)).trans (forall_congr' fun _ => iff_congr Iff.rfl between_self)

/-- `<` / `>`: strict ordering of all members -/
theorem lt_iff (a b : Range) (ha : NonEmpty a) (hb : NonEmpty b) :
    a.lt_op b = true ↔ ∀ x y, Mem x a → Mem y b → x < y :=
  decide_eq_true_iff.trans
    ⟨fun h _ _ hx hy => Int.lt_of_le_of_lt hx.2 (Int.lt_of_lt_of_le h hy.1),
     fun h => h _ _ ha.finish_mem hb.start_mem⟩

theorem gt_iff (a b : Range) (ha : NonEmpty a) (hb : NonEmpty b) :
    a.gt_op b = true ↔ ∀ x y, Mem x a → Mem y b → y < x := by
  rw [Range.gt_op, lt_iff b a hb ha]
  constructor <;> intro h x y hx hy <;> exact h y x hy hx

theorem le_iff (a b : Range) : a.le_op b = !(a.gt_op b) := rfl
theorem ge_iff (a b : Range) : a.ge_op b = !(a.lt_op b) := rfl

/-! ### size counts the members -/

/-- explicit enumeration of the members of an interval -/
def members (r : Range) : List Int := (List.range (r.finish + 1 - r.start).toNat).map (fun (i : Nat) => r.start + (i : Int))

theorem mem_members (r : Range) (x : Int) : x ∈ members r ↔ Mem x r := by
  simp only [members, List.mem_map, List.mem_range, Mem]
  constructor
  · rintro ⟨i, hi, rfl⟩; omega
  · intro h; exact ⟨(x - r.start).toNat, by omega, by omega⟩

theorem members_nodup (r : Range) : (members r).Nodup := by
  unfold members
  have h := @List.nodup_range (r.finish + 1 - r.start).toNat
  exact List.Pairwise.map _ (fun i j (hij : i ≠ j) => by omega) h

theorem size_counts (r : Range) : r.size = ((members r).length : Int) := by
  simp only [Range.size, Range.empty, members, List.length_map, List.length_range]
  by_cases h : r.start > r.finish <;> simp only [h, decide_true, decide_false, if_true, if_false,
    Bool.false_eq_true] <;> omega

/-! ### the operand may be the object itself (`r -= r`, `r *= r`, ...)

`range.h` takes its range operand by reference.  The `…Self` definitions (regenerated like the others) are what the member
computes when the operand aliases `*this`: every read of the operand sees the assignments already made.  The property's
set semantics do not care whether the two operands are the same object, so each must equal the two-operand definition
applied to `(r, r)`. -/

theorem addAssign_self (r : Range) : r.addAssignRSelf = r.addAssignR r := rfl

theorem subAssign_self (r : Range) : r.subAssignRSelf = r.subAssignR r := rfl

theorem mulAssign_self (r : Range) : r.mulAssignRSelf = r.mulAssignR r := rfl

theorem andAssign_self (r : Range) : r.andAssignRSelf = r.andAssignR r := rfl

theorem orAssign_self (r : Range) : r.orAssignRSelf = r.orAssignR r := rfl

theorem unite_intersect_self (r : Range) : r.addRSelf = r.addR r ∧ r.intersectRSelf = r.intersectR r :=
  ⟨rfl, rfl⟩

/-- the value of `r -= r`; with `subAssign_self` and `mem_sub`, its members are the differences of two members of `r` -/
theorem sub_self_tight (r : Range) : r.subAssignRSelf = ⟨r.start - r.finish, r.finish - r.start⟩ :=
  rfl

example : (Range.mk 1 10).subAssignRSelf = ⟨-9, 9⟩ := by decide

/-! ### non-vacuity: concrete operands meet every hypothesis used above -/
example : NonEmpty ⟨-3, 4⟩ ∧ NonEmpty ⟨2, 2⟩ ∧ Mem 0 ⟨-3, 4⟩ := by simp [NonEmpty, Mem]
example : (Range.mk (-3) 4).mulAssignR ⟨-2, 5⟩ = ⟨-15, 20⟩ := by decide
example : (Range.mk 0 5).gt 3 = ⟨4, 5⟩ := by decide

end UtapModel.C18
