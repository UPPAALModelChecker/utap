/- Property C13 -- sizes, bounds, initialisers and value arguments must be compile-time computable.

   Model: Model/Effect.lean (`collectReads`, per-function `depends`, `isCTC`, `closeDeps` / `collectDependencies`,
   `processOk`), parameterised by the generated configuration `EffectGen.genCfg` (translate/effects.py).
   Spec: Model/EffectSpec.lean (`Reads`, `DependsOn`, `BuilderDep`, `containsRandom`, `c13Exceptions`).

   Exception set (DESIGN.md section 2.4): `c13Exceptions genCfg` is *computed* from the generated configuration.  The
   variable-dependence theorems below are full strength.  What the current source lets through concerns only
   (a) the random-number builtins inside function bodies (at the pinned commit also below the root of an expression:
   proposed_fixes/C13-random-nested-operand.diff, which /repo has) and (b) array sizes that reach a free process parameter
   through a function body; for each there is a theorem that holds once the corresponding flag of the configuration is
   set, and a witness that is accepted as long as it is not. -/
import UtapModel.Lemmas.Effect
import UtapModel.Lemmas.TypeWalk
import UtapModel.Gen.EffectGen
namespace UtapModel.C13
open UtapModel UtapModel.Effect UtapModel.EffectGen UtapModel.TypeWalk

/-- collect_possible_reads inserts every identifier, recurses into all children, adds the callee's `depends` for
    FUN_CALL; visitFunction collects `depends` with the visitor that reaches every expression of every statement class. -/
theorem C13_tables_complete : genCfg.ReadsComplete := by decide

theorem C13_calls_exact : genCfg.CallsExact := by decide

/-! ## an accepted compile-time context depends on constants only -/

/-- General form.  `tab` classifies symbols as the type checker does (`symOk` = function symbol, or member of
    CompileTimeComputableValues: constant global / template-level variable, constant non-reference non-double template
    parameter, quantifier binder).  If `e` passes `isCompileTimeComputable`, every symbol its value can read -- directly or
    through the body of a called function, any statement form, any chain of calls -- is such a symbol. -/
theorem C13_reads_general (cfg : Cfg) (hc : cfg.ReadsComplete) (hx : cfg.CallsExact) (P : List FunDecl)
    (hd : declaredBeforeUse P = true) (tab : SymTab) (e : Expr) (he : isCTC cfg (analyse cfg P) tab e = true)
    (s : Sym) (h : Reads P e s) : symOk tab s = true :=
  symOk_of_isCTC he (reads_sound hc (analyse_consistent hx P hd) h _)

/-- C13 (variables, full strength): in a model all of whose global / template-level initialisers were accepted
    (`visitVariable` demands `isCompileTimeComputable` of every initialiser), the value of an accepted compile-time
    context `e` (array size, range bound, scalar-set size, initialiser, value / const-reference argument) does not depend on
    any symbol that is not a compile-time constant or a function: not directly, not through the body of a function (any
    depth), not through the initialiser of a constant it uses (any depth). -/
theorem C13_sound (P : List FunDecl) (hd : declaredBeforeUse P = true) (tab : SymTab) (D : List VarDecl)
    (hacc : ∀ d ∈ D, isCTC genCfg (analyse genCfg P) tab d.init = true)
    (e : Expr) (he : isCTC genCfg (analyse genCfg P) tab e = true) (s : Sym) (h : DependsOn P D e s) : symOk tab s = true := by
  induction h with
  | reads hr => exact C13_reads_general genCfg C13_tables_complete C13_calls_exact P hd tab _ he _ hr
  | viaInit _ hdm _ _ ih => exact ih (hacc _ hdm)

/-- contrapositive, as the property states it: a context that depends on a non-constant variable is rejected -/
theorem C13_rejects (P : List FunDecl) (hd : declaredBeforeUse P = true) (tab : SymTab) (D : List VarDecl)
    (hacc : ∀ d ∈ D, isCTC genCfg (analyse genCfg P) tab d.init = true)
    (e : Expr) (s : Sym) (h : DependsOn P D e s) (hs : symOk tab s = false) : isCTC genCfg (analyse genCfg P) tab e = false :=
  Bool.eq_false_iff.mpr fun he => Bool.eq_false_iff.mp hs (C13_sound P hd tab D hacc e he s h)

/-- per function: a non-local symbol read anywhere in the body is in `function_t::depends` -/
theorem C13_function_depends (P : List FunDecl) (hd : declaredBeforeUse P = true) (fd : FunDecl) (hfd : fd ∈ P) (b : Expr)
    (hb : b ∈ exprsOf fd.body) (s : Sym) (h : Reads P b s) (hl : s ∉ fd.locals) (hp : s ∉ fd.params) :
    ∃ fi, (analyse genCfg P).find fd.name = some fi ∧ s ∈ fi.depends := by
  have hcons := analyse_consistent C13_calls_exact (cfg := genCfg) P hd
  exact ⟨_, hcons fd hfd, mem_funInfo_depends C13_tables_complete hb (reads_sound C13_tables_complete hcons h _) hl hp⟩

/-- symbols: 1 = `w` (mutable global), 2 = `C` (constant), 3 = `rd` (reads `w` in a while condition), 4 = `g` (calls `rd`),
    5 = `K` (constant initialised with `g()` -- rejected), 6 = `pure` (reads `C`) -/
def demoId (s : Sym) : Expr := .node .kIDENTIFIER s []
def demoCall (f : Sym) : Expr := .node .kFUN_CALL 0 [demoId f]
def demoRd : FunDecl := { name := 3, params := [], refNonConst := [], locals := [],
                          body := .block [] [.whileS (demoId 1) .empty, .returnS (.node .kCONSTANT 0 [])] }
def demoG : FunDecl := { name := 4, params := [], refNonConst := [], locals := [], body := .block [] [.returnS (demoCall 3)] }
def demoPure : FunDecl := { name := 6, params := [], refNonConst := [], locals := [], body := .block [] [.returnS (demoId 2)] }
def demoP : List FunDecl := [demoRd, demoG, demoPure]
def demoTab : SymTab := [(1, ⟨false, false⟩), (2, ⟨false, true⟩), (3, ⟨true, false⟩), (4, ⟨true, false⟩), (5, ⟨false, true⟩), (6, ⟨true, false⟩)]

example : declaredBeforeUse demoP = true := by decide
/-- `int a[pure()]` is accepted … -/
example : isCTC genCfg (analyse genCfg demoP) demoTab (demoCall 6) = true := by decide
theorem demo_reads : Reads demoP (demoCall 4) 1 :=
  .callBody (fd := demoG) (b := demoCall 3) (by simp [demoP]) rfl (by simp [demoG, exprsOf, exprsOfL])
    (.callBody (fd := demoRd) (b := demoId 1) (by simp [demoP]) rfl (by simp [demoRd, exprsOf, exprsOfL])
      (.ident 1 []) (by decide) (by decide)) (by decide) (by decide)
/-- … `int a[g()]` depends on `w` through two function bodies and is rejected -/
example : DependsOn demoP [] (demoCall 4) 1 := .reads demo_reads
example : isCTC genCfg (analyse genCfg demoP) demoTab (demoCall 4) = false := by decide
/-- a constant `K = g()` is itself rejected, so no accepted size can smuggle `w` in through `K` -/
example : isCTC genCfg (analyse genCfg demoP) demoTab (demoCall 4) = false ∧ DependsOn demoP [⟨5, demoCall 4⟩] (demoId 5) 1 :=
  ⟨by decide, .viaInit (d := ⟨5, demoCall 4⟩) (.ident 5 []) (by simp) rfl (.reads demo_reads)⟩

/-! ## random-number builtins (exception set) -/

/-- Holds once `collect_possible_reads` hands `collectRandom` down to the children: an expression containing a call of a
    random builtin anywhere is not compile-time computable.  (Full statement; the premise `readsPropagatesRandom = true`
    holds for the current source by `decide`, it did not at the pinned commit: see the witness below and `c13Exceptions`.) -/
theorem C13_random_partial (cfg : Cfg) (hp : cfg.readsPropagatesRandom = true) (hr : cfg.ctcCollectsRandom = true)
    (hi : cfg.randomKinds.contains .kIDENTIFIER = false) (hcall : ∀ k ∈ cfg.randomKinds, cfg.readCallKinds.contains k = false)
    (env : Env) (tab : SymTab) (e : Expr) (h : containsRandom cfg e = true) : isCTC cfg env tab e = false :=
  isCTC_false_of_zero (hr ▸ random_in_reads hp hi hcall e h) tab

/-- what does hold today: a random builtin at the *root* of the expression is rejected -/
theorem C13_random_root (env : Env) (tab : SymTab) (k : Kind) (hk : k ∈ genCfg.randomKinds) (x : Sym) (subs : List Expr) :
    isCTC genCfg env tab (.node k x subs) = false := by
  have hgen : genCfg.ctcCollectsRandom = true ∧ genCfg.randomKinds.contains .kIDENTIFIER = false ∧
      ∀ k ∈ genCfg.randomKinds, genCfg.readCallKinds.contains k = false := by decide
  exact isCTC_false_of_zero (hgen.1 ▸ random_at_root hgen.2.1 hgen.2.2 (List.contains_iff_mem.mpr hk) x subs) tab

/-- witness of `random:nested-operand`: `1.0 + random(1.0)` passes `isCompileTimeComputable` whenever the flag is not
    handed down (so at the pinned commit; vacuous with the one-line repair, which /repo has) -/
def witnessRandomNested : Expr := .node .kPLUS 0 [.node .kCONSTANT 0 [], .node .kRANDOM_F 0 [.node .kCONSTANT 0 []]]
theorem C13_witness_random_nested :
    genCfg.readsPropagatesRandom = false → containsRandom genCfg witnessRandomNested = true ∧ isCTC genCfg [] [] witnessRandomNested = true := by
  decide

/-- witness of `random:via-function-body`: `rf()` with `double rf() { return random(1.0); }` -/
def witnessRandomFun : List FunDecl :=
  [{ name := 1, params := [], refNonConst := [], locals := [], body := .block [] [.returnS (.node .kRANDOM_F 0 [.node .kCONSTANT 0 []])] }]
theorem C13_witness_random_function :
    genCfg.dependsCollectsRandom = false →
    isCTC genCfg (analyse genCfg witnessRandomFun) [(1, ⟨true, false⟩)] (.node .kFUN_CALL 0 [.node .kIDENTIFIER 1 []]) = true := by
  decide

/-- Everything an array size (scalar-set size) depends on *directly or through initialisers of variables* is put into
    `restricted` by the builder's closure (whenever the work-list loop ends, i.e. returns `some`). -/
theorem C13_restricted_complete (D : List VarDecl) (fuel : Nat) (size : Expr) (R : List Sym)
    (h : collectDependencies genCfg D fuel [] size = some R) (p : Sym) (hp : BuilderDep D size p) : p ∈ R :=
  builderDep_in_closure C13_tables_complete h hp

/-- C13, free parameters (partial: dependence through initialisers, typedefs and operators; *not* through function
    bodies, see `C13_witness_free_param_function`): a process accepted by `visitProcess` has no unbound parameter that
    an array size of its template depends on.
    Full statement (not provable for the current source): the same with `BuilderDep` extended by the `callBody` rule of
    `Reads`, i.e. dependence through the bodies of called functions. -/
theorem C13_free_param_partial (D : List VarDecl) (fuel : Nat) (size : Expr) (R restricted unbound : List Sym)
    (h : collectDependencies genCfg D fuel [] size = some R) (hsub : ∀ s ∈ R, s ∈ restricted)
    (hok : processOk unbound restricted = true) (p : Sym) (hp : p ∈ unbound) : ¬ BuilderDep D size p := by
  intro hdep
  have := List.all_eq_true.mp hok p hp
  rw [List.contains_iff_mem.mpr (hsub p (C13_restricted_complete D fuel size R h p hdep))] at this
  cases this

/-- satisfiable: `const int M = N; int a[M + 1];` with free parameter `N` (symbol 1; `M` = 2): `N` is restricted, the
    process is rejected -/
example : collectDependencies genCfg [⟨2, .node .kIDENTIFIER 1 []⟩] 10 []
    (.node .kPLUS 0 [.node .kIDENTIFIER 2 [], .node .kCONSTANT 0 []]) = some [1, 2] := by decide
example : processOk [1] [1, 2] = false := by decide

/-- witness of `free-param:array-size-via-function`: `int f() { return N; }  int a[f()];` -- the closure of the size
    expression `f()` contains `f` (symbol 3) only, never the parameter `N` (symbol 1) it reads, so the free parameter
    passes `visitProcess`, although the size does read `N` through the body of `f`. -/
def witnessFreeParamFun : List FunDecl :=
  [{ name := 3, params := [], refNonConst := [], locals := [], body := .block [] [.returnS (.node .kIDENTIFIER 1 [])] }]
theorem C13_witness_free_param_function :
    genCfg.depsFollowFunctions = false →
    collectDependencies genCfg [] 10 [] (.node .kFUN_CALL 0 [.node .kIDENTIFIER 3 []]) = some [3] ∧ processOk [1] [3] = true := by
  decide
example : Reads witnessFreeParamFun (.node .kFUN_CALL 0 [.node .kIDENTIFIER 3 []]) 1 :=
  .callBody (fd := witnessFreeParamFun[0]) (b := .node .kIDENTIFIER 1 []) (by simp [witnessFreeParamFun]) rfl
    (by simp [witnessFreeParamFun, exprsOf, exprsOfL]) (.ident 1 []) (by decide) (by decide)

/-- array size, range bound, scalar-set size, select domain, global / template-level initialiser: not computable ⇒ rejected
    (whatever the other tests of the site say) -/
theorem C13_contexts : ∀ c ∈ Context.all, c.needsCtc = true → ∀ typedOk changes : Bool,
    c.rejects genCfg typedOk false changes = true := by decide

/-- an argument bound to a by-value parameter or to a constant reference parameter is rejected unless computable;
    a non-constant reference parameter takes any unique lvalue -/
theorem C13_argument : ∀ ref constant uniqueRef : Bool, (ref = false ∨ constant = true) →
    argRejects genCfg ref constant false uniqueRef = true := by decide
theorem C13_argument_twin : ∀ ref constant : Bool, argRejects genCfg ref constant true true = false := by decide

/-- the computed exception set of the current source contains nothing but the three listed shapes -/
theorem C13_exceptions_today : ∀ x ∈ c13Exceptions genCfg,
    x ∈ ["random:nested-operand", "random:via-function-body", "free-param:array-size-via-function"] := by decide +kernel

/-! ## sizes and bounds hang off types: the walk that brings them to the checks (Model/TypeWalk.lean) -/

/-- today's `TypeChecker::checkType`: every wrapping kind (typedef name, prefix, reference) passes its child on, a range
    tests both bounds, an array hands on its size and its element type, a record all its fields -/
theorem C13_type_walk_complete : genWalk.Complete := by decide

/-- Every array size, range bound and scalar-set size anywhere in a type -- behind typedef names, in any dimension of an
    array, in a row type that is the element type of another array, in a field of a record, to any depth -- is handed to
    `checkExpression` and `isCompileTimeComputable` when `checkType` is called on the type. -/
theorem C13_type_bounds_checked (t : WTy) (h : t.wellKinded = true) : ∀ x ∈ t.exprs, x ∈ visits genWalk t :=
  visits_complete genWalk C13_type_walk_complete t h

/-- … and `checkType` is called on the type of every variable, select binder, iteration binder, block symbol (parameters
    and locals of functions) and on the type of the binder of `forall`, `exists` and `sum` -- the binder's range is no
    operand of the quantified expression, so this call is the only thing that brings its bounds to the checks. -/
theorem C13_type_sites_complete : ∀ s ∈ requiredSites, s ∈ genWalk.sites := by decide +kernel

/-- A variable is found by the frame walk of `Document::accept` (hence by `visitVariable`: its type and its initialiser are
    checked) whatever base type it has … -/
theorem C13_variable_kinds_visited : ∀ k ∈ variableKinds, k ∈ genWalk.variableBaseKinds := by decide

/-- … and however array levels, typedef names and prefixes alternate above that base type (`row_t m[2]` with
    `typedef int row_t[n]`): `strip_array()` returns the base type itself, never an array and never a wrapped type. -/
theorem C13_strip_array_reaches_base (stripped : Kind → Bool) (t : WTy) :
    isArrayType stripped (stripArray stripped t) = false ∧ strip stripped (stripArray stripped t) = stripArray stripped t :=
  stripArray_base stripped t

/-- satisfiable: `typedef int row_t[e1]; const row_t m[e2];` with `int[e3, e4]` cells -- all four expressions are visited,
    and the variable is classified as an INT variable -/
def demoMatrix : WTy :=
  .array (.range 0 2) (.wrap .kCONSTANT (.wrap .kLABEL (.array (.range 0 1) (.wrap .kLABEL (.range 3 4)))))
theorem C13_type_walk_demo : visits genWalk demoMatrix = [0, 2, 0, 1, 3, 4] := by decide
theorem C13_strip_array_demo :
    stripArray (fun k => k == .kLABEL || k == .kCONSTANT) (.wrap .kLABEL (.array (.range 0 2) (.wrap .kLABEL (.array (.range 0 1) (.leaf .kINT)))))
      = .leaf .kINT := by simp [stripArray]

end UtapModel.C13
