/-
C03 — printing an expression and re-parsing it reproduces the same tree.

`lprint` (Model/PrintModel.lean) is the token stream of `expression_t::str()`: per-kind layout with each operand wrapped
by `embrace`, `embrace_strict` or nothing, as prescribed by tables that translate/printer.py regenerates from
src/expression.cpp (`get_precedence`, `print`) on every run.  The parser is the grammar model of C02 with the table
regenerated from parser.y.  `good` is the *computed* criterion: it fails exactly at a (parent kind, operand position,
child kind) where the printer omits parentheses that the grammar needs — today: a callee of a call that is not a primary
expression (`(a < b)(a)` is printed `a < b ( a )`), which no accepted expression contains.  The check enumerates all such
combinations from the generated tables (driver command `B`), proves the negation on each witness (Gen/PrinterWitness.lean,
regenerated) and replays them on the library.

Full statement (not provable, because the unchanged library violates it at the shapes above):
  ∀ e, wf e → parseTop utapT (lprint e) = some e.
-/
import UtapModel.Lemmas.PrintLemmas
import UtapModel.Lemmas.StrLit
import UtapModel.Props.C02

namespace UtapModel.C03
open UtapModel.Pratt UtapModel.ExprTable UtapModel.PrintModel UtapModel.Spec

/-- **parse (str e) = e** for every tree (all operator pairs and positions, unbounded size) outside the computed
exception set -/
theorem C03_partial (e : Expr) (h : good genData mt false e = true) :
    parseTop utapT (lprint genData mt e) = some e :=
  print_parse genData mt UtapModel.C02.utapT_tern_le_quest e h

/-- **str (parse (str e)) = str e**: the second conversion gives the identical token stream -/
theorem C03_idempotent (e e' : Expr) (h : good genData mt false e = true)
    (hp : parseTop utapT (lprint genData mt e) = some e') : lprint genData mt e' = lprint genData mt e := by
  rw [C03_partial e h] at hp
  injection hp with hp
  rw [← hp]

/-- the criterion is not stronger than the fragment needs at the root: every well-formed tree whose operands are all
atoms is good (so each operator occurs in good trees) -/
theorem good_of_atoms_bin (t : Nat) (x y : Atom) (hx : x ≠ .intMin) (hy : y ≠ .intMin)
    (h : wf utapT mt false (.bin t (.atom x) (.atom y)) = true) : good genData mt false (.bin t (.atom x) (.atom y)) = true := by
  simp only [wf, Bool.and_eq_true, Bool.not_eq_true', hx, hy, if_false] at h
  simp only [good, opOK, bareOK, lvlOf, Bool.or_true, Bool.and_true, hx, hy, if_false, Bool.and_eq_true, Bool.not_eq_true']
  exact ⟨⟨h.1.1.1.1, h.1.1.1.2⟩, h.1.1.2⟩

/-! ### non-vacuity and the known exception, on concrete trees -/
example : good genData mt false
    (.bin (tokOfText "*") (.bin (tokOfText "+") (.atom (.ident "a")) (.atom (.ident "b")))
      (.pre (tokOfText "-") (.tern (.atom (.ident "p")) (.atom (.nat 1)) (.index (.atom (.ident "c")) (.atom (.nat 2)))))) = true := by
  decide +kernel
example : toksText (lprint genData mt
    (.bin (tokOfText "*") (.bin (tokOfText "+") (.atom (.ident "a")) (.atom (.ident "b"))) (.atom (.ident "c")))) = "( a + b ) * c" := by
  decide +kernel

/-! ### string constants at the text level

`expression_t::print` writes a string constant with `std::quoted`; the lexer rule `\"[^\"]+\"` takes the token back and
`make_constant` reads its value with `std::quoted` again (Model/StrLit.lean). -/

open UtapModel.StrLit in
/-- reading back never depends on what the value contains (`std::quoted` is its own inverse); the hypothesis below is the lexer's -/
theorem C03_quoted_inverse (s : List Char) : unquote (quote s) = s := by
  simp only [unquote, quote, beq_self_eq_true, if_true]
  exact unescape_escape s []

open UtapModel.StrLit in
/-- **a printed string constant reads back as the same value**, with whatever follows it left in the input -- for every non-empty
    value without a double quote (the values the lexer can produce), backslashes and everything else included -/
theorem C03_string_roundtrip (s rest : List Char) (hne : s ≠ []) (hq : NoQuote s) : roundTrip s rest = some (s, rest) := by
  have hne' : (escape s).isEmpty = false := by simpa using escape_ne_nil s hne
  have htxt : quote s ++ rest = dq :: (escape s ++ dq :: rest) := by simp [quote]
  simp only [roundTrip, htxt, lexStr, beq_self_eq_true, if_true, spanNoQuote_append _ rest (noQuote_escape s hq), hne',
    Bool.false_eq_true, if_false, Option.map_some]
  exact congrArg (fun v => some (v, rest)) (C03_quoted_inverse s)

open UtapModel.StrLit in
/-- the hypotheses cannot be dropped: a value containing a double quote, and the empty value, do not come back -/
theorem C03_string_witness :
    roundTrip "a\"b".toList [] ≠ some ("a\"b".toList, []) ∧ roundTrip [] [] = none := by decide

open UtapModel.StrLit in
example : NoQuote "C:\\dir\\f.json".toList ∧ "C:\\dir\\f.json".toList ≠ [] := by
  refine ⟨?_, by decide⟩
  intro c hc; revert c; decide

end UtapModel.C03
