/-
C17 — analysis methods are reported as supported only when the model permits them.

The objects (Model/Feature.lean):
* `reported cfg m`   the verdict `Document::get_supported_methods()` returns after `FeatureChecker` ran over the abstract
                     document `m`; `cfg` are the decisions of the C++ source.  `Cfg.current` is regenerated from
                     `/repo/src/featurechecker.cpp` + `expression.cpp` on every run (translate/feature.py); the theorems
                     below are proved for EVERY configuration, so they hold for whatever the source says today.
* `SpecSymbolic m`, `SpecStochastic m`, `SpecConcrete m`   the property statement: every sub-expression of every guard and
                     invariant of every instantiated template, every relational operator, both operand orders, every
                     element of an update list, global and local declarations, channel arrays and local channels.
                     "A floating-point value" is an operand that is one or is computed from one (`hasFp`: some sub-expression
                     has floating-point type, whatever the type of the operators above it: `i = fint(d)`, `x >= i + fint(d)`).
* `shapesOf m`       the placements of restricting features present in `m`; `exceptions cfg` the computed set of
                     placements the configured checker does not inspect (`detects cfg s = false`).

Full-strength statement (NOT provable for the pinned commit, `exceptions Cfg.original` has 32 elements):
    theorem C17_full (m : Doc) : Sound Cfg.current m
What is proved instead, for all documents of any size:
    `C17_partial`: `Sound cfg m` for every `m` none of whose placements lies in `exceptions cfg`
    `C17_witness_original`: `¬ Sound Cfg.original (witness s)` for every `s ∈ exceptions Cfg.original`
    `C17_full_of_no_exceptions`: the full statement for any configuration whose exception set is empty
    `C17_repaired_exceptions`: after proposed_fixes/C17-feature-placements.diff only the two "rate below a quantifier"
                               placements remain
plus `C17_uninstantiated` and `C17_order_irrelevant` (both full strength).
-/
import UtapModel.Lemmas.FeatureMain

namespace UtapModel.C17
open UtapModel UtapModel.Feature

/-- the three "only if" clauses of the property -/
def Sound (cfg : Cfg) (m : Doc) : Prop :=
  ((reported cfg m).symbolic = true → SpecSymbolic m) ∧
  ((reported cfg m).stochastic = true → SpecStochastic m) ∧
  ((reported cfg m).concrete = true → SpecConcrete m)

instance (cfg : Cfg) (m : Doc) : Decidable (Sound cfg m) := by unfold Sound; infer_instance

theorem mem_exceptions (cfg : Cfg) (s : Shape) : s ∈ exceptions cfg ↔ s ∈ allShapes ∧ detects cfg s = false := by
  simp [exceptions]

/-- symbolic analysis is reported only if the statement allows it — for every configuration and every document all of
    whose restricting features sit at placements the configuration inspects -/
theorem C17_symbolic_partial (cfg : Cfg) (m : Doc) (hs : ∀ s ∈ shapesOf m, detects cfg s = true)
    (h : (reported cfg m).symbolic = true) : SpecSymbolic m := by
  obtain ⟨sg, st⟩ := forall_mem_shapesOf.mp hs
  rw [reported_eq cfg m (not_throws cfg m hs)] at h
  simp only [Bool.not_eq_true', Bool.or_eq_false_iff, anyVisited_eq_false, frameLost_eq_false, templLost_eq_false] at h
  obtain ⟨⟨hdyn, hg⟩, ht⟩ := h
  exact ⟨hdyn, fun s hm => (sym_ok cfg false s (sg s hm) (hg s hm)).1, fun t htm hti =>
    ⟨fun s hm => sym_ok cfg true s ((st t htm hti).1 s hm) ((ht t htm hti).1 s hm),
     fun e hm => edge_ok cfg e ((st t htm hti).2 e hm) ((ht t htm hti).2 e hm)⟩⟩

example : ∃ m : Doc, (∀ s ∈ shapesOf m, detects Cfg.original s = true) ∧ (reported Cfg.original m).symbolic = true ∧ m.templs ≠ [] :=
  ⟨{ dyn := false, prio := false, gframe := [.var { clkD := true, clkS := true } (.node .kCONSTANT {} (.int 2) [])],
     templs := [{ inst := true, dynamic := false, frame := [], edges := [] }] }, by decide⟩

/-- stochastic analysis is reported only if every declared channel is broadcast and there are no priorities -/
theorem C17_stochastic_partial (cfg : Cfg) (m : Doc) (hs : ∀ s ∈ shapesOf m, detects cfg s = true)
    (h : (reported cfg m).stochastic = true) : SpecStochastic m := by
  obtain ⟨sg, st⟩ := forall_mem_shapesOf.mp hs
  rw [reported_eq cfg m (not_throws cfg m hs)] at h
  simp only [Bool.not_eq_true', Bool.or_eq_false_iff, Bool.and_eq_false_imp, anyVisited_eq_false, visitFrame_eq_false] at h
  obtain ⟨⟨hprio, hg⟩, ht⟩ := h
  -- local frames are scanned only if `chanLocalFrames`; if not, a local channel is a placement outside the inspected ones
  exact ⟨hprio, fun s hm => chan_ok cfg false s (sg s hm) fun _ => hg s hm, fun t htm hti s hm =>
    chan_ok cfg true s ((st t htm hti).1 s hm) fun hl => ht (hl rfl) t htm hti s hm⟩

/-- concrete simulation is reported only if there are no priorities -/
theorem C17_concrete_partial (cfg : Cfg) (m : Doc) (hs : ∀ s ∈ shapesOf m, detects cfg s = true)
    (h : (reported cfg m).concrete = true) : SpecConcrete m := by
  rw [reported_eq cfg m (not_throws cfg m hs)] at h
  simpa [SpecConcrete] using h

/-- **C17, outside the computed exception set**: for every configuration of the checker and every document none of whose
    restricting features sits at a placement of `exceptions cfg`, each method is reported only if the statement allows it -/
theorem C17_partial (cfg : Cfg) (m : Doc) (hs : ∀ s ∈ shapesOf m, s ∉ exceptions cfg) : Sound cfg m := by
  have hd : ∀ s ∈ shapesOf m, detects cfg s = true := fun s hmem =>
    Bool.of_not_eq_false fun hdt => hs s hmem ((mem_exceptions cfg s).mpr ⟨shapesOf_in_all m s hmem, hdt⟩)
  exact ⟨C17_symbolic_partial cfg m hd, C17_stochastic_partial cfg m hd, C17_concrete_partial cfg m hd⟩

/-- a configuration with an empty exception set satisfies the property at full strength -/
theorem C17_full_of_no_exceptions (cfg : Cfg) (h : exceptions cfg = []) (m : Doc) : Sound cfg m :=
  C17_partial cfg m fun _ _ => h ▸ List.not_mem_nil

/-- the placements the checker of the pinned commit does not inspect (what `exceptions` computes for it) -/
theorem C17_original_exceptions :
    (exceptions Cfg.original).map Shape.key =
      ["cmp:guard/root/NEQ", "cmp:guard/root/GE", "cmp:guard/root/GT",
       "cmp:guard/nested/LT", "cmp:guard/nested/LE", "cmp:guard/nested/EQ", "cmp:guard/nested/NEQ", "cmp:guard/nested/GE",
       "cmp:guard/nested/GT",
       "cmp:invariant/root/LT", "cmp:invariant/root/LE", "cmp:invariant/root/EQ", "cmp:invariant/root/NEQ",
       "cmp:invariant/root/GE", "cmp:invariant/root/GT",
       "cmp:invariant/nested/LT", "cmp:invariant/nested/LE", "cmp:invariant/nested/EQ", "cmp:invariant/nested/NEQ",
       "cmp:invariant/nested/GE", "cmp:invariant/nested/GT",
       "assign:hybrid-in-value", "init:clock-array", "rate:int/non-conjunct", "rate:double/conjunct", "rate:double/non-conjunct",
       "chan:global/array", "chan:local/scalar", "chan:local/array"] := by decide +kernel

/-- after proposed_fixes/C17-feature-placements.diff only a rate below a quantifier (`forall (i : …) x[i]' == 2`) is missed -/
theorem C17_repaired_exceptions : exceptions Cfg.repaired = [.rateInt false, .rateDbl false] := by decide

/-! ### the negation on a witness per placement -/

namespace W
def clk : FExpr := .node .kIDENTIFIER { clk := true } .none []
def hclk : FExpr := .node .kIDENTIFIER { clk := true, hyb := true, symHyb := true } .none []
def dbl : FExpr := .node .kCONSTANT { dbl := true } (.dbl 2) []
def dvar : FExpr := .node .kIDENTIFIER { dbl := true } .none []
def ivar : FExpr := .node .kIDENTIFIER {} .none []
def int (n : Int) : FExpr := .node .kCONSTANT {} (.int n) []
def tt : FExpr := int 1
def bin (k : Kind) (a b : FExpr) : FExpr := .node k {} .none [a, b]
def rate (c : FExpr) : FExpr := .node .kRATE {} .none [c]
def doc (gframe : List FSym) (frame : List FSym) (guard assign : FExpr) : Doc :=
  { dyn := false, prio := false, gframe := gframe,
    templs := [{ inst := true, dynamic := false, frame := frame, edges := [{ guard := guard, assign := assign }] }] }
end W

open W in
/-- a smallest document exhibiting the placement -/
def witness : Shape → Doc
  | .cmp .guard true k => doc [] [] (bin k clk dbl) tt
  | .cmp .guard false k => doc [] [] (bin .kAND (bin .kEQ ivar (int 0)) (bin k dbl clk)) tt
  | .cmp .inv true k => doc [] [.loc {} (bin k clk dbl)] tt tt
  | .cmp .inv false k => doc [] [.loc {} (bin .kAND tt (bin k clk dbl))] tt tt
  | .assign false => doc [] [] tt (bin .kCOMMA (bin .kASSIGN ivar (int 1)) (.node .kASSIGN { clk := true } .none [clk, dbl]))
  | .assign true => doc [] [] tt (.node .kASSIGN { dbl := true } .none [dvar, .node .kMULT { dbl := true } .none [hclk, dbl]])
  | .init false => doc [.var { clkD := true, clkS := true } dbl] [] tt tt
  | .init true => doc [] [.var { clkS := true } (.node .kLIST {} .none [int 1, dbl])] tt tt
  | .rateInt true => doc [] [.loc {} (bin .kAND (bin .kAND tt (bin .kLE clk (int 5))) (bin .kEQ (int 2) (rate clk)))] tt tt
  | .rateInt false => doc [] [.loc {} (bin .kAND tt (bin .kFORALL ivar (bin .kEQ (rate clk) (int 2))))] tt tt
  | .rateDbl true => doc [] [.loc {} (bin .kAND tt (bin .kEQ (rate clk) dbl))] tt tt
  | .rateDbl false => doc [] [.loc {} (bin .kAND tt (bin .kFORALL ivar (bin .kEQ (rate clk) dbl)))] tt tt
  | .chan false false => doc [.var { chD := true, chS := true } .empty] [] tt tt
  | .chan false true => doc [.var { chS := true } .empty] [] tt tt
  | .chan true false => doc [] [.var { chD := true, chS := true } .empty] tt tt
  | .chan true true => doc [] [.var { chS := true } .empty] tt tt

/-- the witness of a placement contains that placement -/
theorem C17_witness_has_shape : ∀ s ∈ allShapes, s ∈ shapesOf (witness s) := by decide +kernel

/-- the witnesses are sharp: at the pinned commit the property holds on the witness of a placement exactly if the checker
    inspects that placement -/
theorem C17_witness_sharp : ∀ s ∈ allShapes, (Sound Cfg.original (witness s) ↔ detects Cfg.original s = true) := by decide +kernel

/-- at the pinned commit, every placement of the computed exception set breaks the property on its witness -/
theorem C17_witness_original : ∀ s ∈ exceptions Cfg.original, ¬ Sound Cfg.original (witness s) := fun s hs h =>
  have ⟨ha, hd⟩ := (mem_exceptions _ s).mp hs
  Bool.false_ne_true (hd.symm.trans ((C17_witness_sharp s ha).mp h))

/-- and the placements outside it do not -/
theorem C17_witness_inspected : ∀ s ∈ allShapes, detects Cfg.original s = true → Sound Cfg.original (witness s) :=
  fun s ha => (C17_witness_sharp s ha).mpr

/-- two documents that differ only in templates that are never instantiated get the same verdict -/
theorem C17_uninstantiated (cfg : Cfg) (m m' : Doc) (hd : m.dyn = m'.dyn) (hp : m.prio = m'.prio) (hg : m.gframe = m'.gframe)
    (ht : m.templs.filter (·.inst) = m'.templs.filter (·.inst)) : reported cfg m = reported cfg m' :=
  reported_congr cfg hd hp (fun _ => by rw [hg]) fun f _ => by simp only [anyVisited, ← List.any_filter, ht]

example : ∃ m m' : Doc, m.templs.filter (·.inst) = m'.templs.filter (·.inst) ∧ m.templs.length ≠ m'.templs.length :=
  ⟨witness (.chan false false),
   { witness (.chan false false) with templs := (witness (.cmp .guard true .kLT)).templs.map (fun t => { t with inst := false })
                                                  ++ (witness (.chan false false)).templs }, rfl, by decide⟩

/-- the verdict does not depend on the order of declarations: templates, entries of the global frame, entries of a
    template's frame (variables, locations), edges -/
theorem C17_order_irrelevant (cfg : Cfg) (m m' : Doc) (hd : m.dyn = m'.dyn) (hp : m.prio = m'.prio)
    (hg : m.gframe.Perm m'.gframe) (ht : ∃ l, m.templs.Perm l ∧ Pointwise Templ.Equiv l m'.templs) :
    reported cfg m = reported cfg m' :=
  reported_congr cfg hd hp (fun _ => hg.any_eq) fun f hf => anyVisited_congr m m' f hf ht

example : ∃ m m' : Doc, m.gframe.Perm m'.gframe ∧ (∃ l, m.templs.Perm l ∧ Pointwise Templ.Equiv l m'.templs) ∧
    m.gframe.map (fun s => match s with | .tdef _ => true | _ => false) ≠ m'.gframe.map (fun s => match s with | .tdef _ => true | _ => false) :=
  ⟨{ witness (.chan false false) with gframe := [.tdef {}, .other {}] },
   { witness (.chan false false) with gframe := [.other {}, .tdef {}] },
   List.Perm.swap _ _ _, ⟨_, List.Perm.refl _, .cons ⟨rfl, List.Perm.refl _, List.Perm.refl _⟩ .nil⟩, by decide⟩

end UtapModel.C17
