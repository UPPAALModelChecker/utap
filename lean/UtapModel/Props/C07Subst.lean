/-
C07 / C19 — substitution of the instantiation arguments into the type of a process member (`P.x` in a query).

Model: Model/TypeSubst.lean (`expression_t::subst`, `type_t::subst`, the double loop of `ExpressionBuilder::expr_dot` over the process's
mapping); translate/typesubst.py matches the three C++ texts and regenerates how many rounds the loop makes (Gen/TypeSubstCfg.lean).

What is proved:
 * C19: substituting a symbol by itself is the identity; a substitution replaces exactly the identifier occurrences of the symbol (which
   symbols occur afterwards; nothing changes where the symbol does not occur) -- for expressions and through types.
 * C07: in the type of `P.x` no parameter of any instantiation step is left, whatever the order in which the mapping is stored (it is a
   std::map ordered by symbol address) and however many steps of partial instantiation lie between the template and the process -- the
   arguments of the steps depend on each other without a cycle, which is all that is used.  For a single-step instantiation with closed
   arguments the order of the mapping does not matter at all.
 * the repetition cannot be dropped: one round in an unlucky order leaves a parameter behind (witness; this was the defect repaired by
   c2a3e96).
-/
import UtapModel.Lemmas.TypeSubst

namespace UtapModel.C07Subst
open UtapModel.TypeSubst UtapModel.TypeSubstCfg

/-- **tie T**: the bodies of `expression_t::subst` and `type_t::subst` are the texts the model was written from, and `expr_dot` makes one
    round per mapping entry -/
theorem C07_subst_cfg : substSkeletonsMatch = true ∧ roundsPerMappingEntry = true := by decide

theorem dotType_rounds (m : List (Nat × E)) (t : T) : dotType m t = passes m m.length t := by
  simp only [dotType, dotTypeCfg, C07_subst_cfg.2, if_true]

/-! ### C19: substitution laws -/

/-- substituting a symbol by itself is the identity (expressions and types) -/
theorem C19_subst_self (s : Nat) (e : E) (t : T) : substE s (.id s) e = e ∧ substT s (.id s) t = t :=
  ⟨substE_self s e, substT_self s t⟩

/-- **exactly the occurrences of the symbol are replaced**: afterwards `x` occurs iff it occurred (and is not the symbol) or the symbol
    occurred and `x` occurs in the argument; where the symbol does not occur nothing changes -/
theorem C19_subst_exact (x s : Nat) (a e : E) (t : T) :
    occE x (substE s a e) = ((x != s && occE x e) || (occE s e && occE x a)) ∧
    occT x (substT s a t) = ((x != s && occT x t) || (occT s t && occE x a)) ∧
    (occE s e = false → substE s a e = e) ∧ (occT s t = false → substT s a t = t) :=
  ⟨occE_subst x s a e, occT_subst x s a t, substE_notocc s a e, substT_notocc s a t⟩

/-- substitution through a type is substitution in every expression the type carries, the structure kept (`embed` is injective on structure) -/
theorem C19_subst_type_structure (s : Nat) (a : E) (t : T) : embed (substT s a t) = substE s a (embed t) := embed_subst s a t

/-- independent substitutions commute -/
theorem C19_subst_commute (s1 s2 : Nat) (e1 e2 : E) (t : T) (hne : s1 ≠ s2) (h1 : occE s1 e2 = false) (h2 : occE s2 e1 = false) :
    substT s1 e1 (substT s2 e2 t) = substT s2 e2 (substT s1 e1 t) := substT_comm s1 s2 e1 e2 t hne h1 h2

/-! ### C07: the type of `P.x` -/

/-- **no parameter is left in the type of `P.x`**: for a mapping whose arguments depend on each other without a cycle (`r` ranks the
    parameters; an argument mentions only parameters of smaller rank) and whose ranks are below the number of entries, after `expr_dot`'s
    rounds no mapped symbol occurs -- in ANY order of the mapping's entries, for any type -/
theorem C07_member_type_closed (m : List (Nat × E)) (r : Nat → Nat) (hac : Acyclic m r) (hr : ∀ x, isKey m x = true → r x < m.length)
    (t : T) (x : Nat) (hx : isKey m x = true) : occT x (dotType m t) = false := by
  rw [dotType_rounds]
  exact passes_closed hac m.length hr t x hx

/-- the same, for the expressions inside: the embedding of the result mentions no parameter -/
theorem C07_member_type_closed_tree (m : List (Nat × E)) (r : Nat → Nat) (hac : Acyclic m r) (hr : ∀ x, isKey m x = true → r x < m.length)
    (t : T) (x : Nat) (hx : isKey m x = true) : occE x (embed (dotType m t)) = false := by
  rw [occ_embed]; exact C07_member_type_closed m r hac hr t x hx

/-- **single-step instantiation (closed arguments): the order of the mapping is irrelevant** -/
theorem C07_member_type_order_irrelevant (m m' : List (Nat × E)) (hp : m.Perm m') (hnd : (m.map (·.1)).Nodup)
    (hcl : ∀ p ∈ m, ∀ q ∈ m, occE q.1 p.2 = false) (t : T) : dotType m t = dotType m' t := by
  rw [dotType_rounds, dotType_rounds, hp.length_eq]
  exact passes_perm hp hnd hcl _ t

/-! ### witnesses -/

/-- `Q(m) = T(m, 4); R = Q(6);` : template parameters p = 1, q = 2, the parameter m = 3 of Q;  `int[0,p] yd; int[0,q] ye;` -/
private def rangeTo (s : Nat) : T := .withExpr (.withExpr (.child (.prim "RANGE") "" (.prim "INT")) (.atom "0")) (.id s)
private def chainMap : List (Nat × E) := [(3, .atom "6"), (1, .id 3), (2, .atom "4")]      -- m before p: the unlucky order
private def chainRank : Nat → Nat := fun x => if x = 1 then 1 else 0

theorem C07_chain_acyclic : Acyclic chainMap chainRank := by
  intro p hp x hk ho
  simp only [chainMap, List.mem_cons, List.mem_nil_iff, or_false] at hp
  rcases hp with rfl | rfl | rfl
  · simp [occE] at ho
  · simp only [occE, beq_iff_eq] at ho; subst ho; decide
  · simp [occE] at ho

/-- the hypotheses of `C07_member_type_closed` are met by the two-step chain -/
example : ∀ x, isKey chainMap x = true → occT x (dotType chainMap (rangeTo 1)) = false :=
  fun x hx => C07_member_type_closed chainMap chainRank C07_chain_acyclic (by
    intro y hy; simp only [chainRank, chainMap, List.length_cons, List.length_nil]; split <;> omega) (rangeTo 1) x hx

/-- and the result is the type with the argument of the OUTER step: `int[0,6]` -/
theorem C07_chain_result : dotType chainMap (rangeTo 1) = .withExpr (.withExpr (.child (.prim "RANGE") "" (.prim "INT")) (.atom "0")) (.atom "6") := by
  decide +kernel

/-- **the repetition cannot be dropped**: one round in this order leaves the parameter m of the intermediate instance in the type
    (the behaviour before the repair c2a3e96) -/
theorem C07_one_round_witness : occT 3 (dotTypeCfg false chainMap (rangeTo 1)) = true := by decide +kernel

end UtapModel.C07Subst
