/- Property C11 -- expressions that must be side-effect free are rejected if they can write state.

   Model: Model/Effect.lean (executable, parameterised by the configuration `EffectGen.genCfg` that translate/effects.py
   regenerates from src/expression.cpp, include/utap/statement.h, src/statement.cpp, src/typechecker.cpp on every run).
   Spec:  Model/EffectSpec.lean (`Writes`, `MayWrite`, `RootOf`, `pureExpr`, `Context`).
   Lemmas: Lemmas/Effect.lean.

   The general theorems are stated for *every* configuration satisfying a decidable completeness predicate and for every
   program, expression and statement nesting (no bound); the instance for today's source is closed by `decide` on the
   generated tables, so a dropped case label / visitor method / check site breaks exactly that instance. -/
import UtapModel.Lemmas.Effect
import UtapModel.Lemmas.TypeWalk
import UtapModel.Gen.EffectGen
namespace UtapModel.C11
open UtapModel UtapModel.Effect UtapModel.EffectGen

/-! ## today's tables are complete -/

/-- collect_possible_writes has a case for every assignment / increment kind and for calls, recurses into all children,
    adds the callee's `changes` and the arguments of non-constant reference parameters; get_symbols follows `.`, `[]`,
    both branches of `?:`, the right operand of `,`, assignment and pre-increment targets; the visitor behind
    CollectChangesVisitor reaches every expression field and sub-statement of every statement class. -/
theorem C11_tables_complete : genCfg.WritesComplete := by decide +kernel

/-- nothing else contributes to a write set: only the language's writing kinds and call kinds are listed -/
theorem C11_tables_exact : genCfg.WritesExact := by decide

theorem C11_calls_exact : genCfg.CallsExact := by decide

/-- every `…_must_be_side-effect_free` / `$Must_be_computable_at_compile_time` site the contexts rely on is present
    in src/typechecker.cpp, each guarded by `changes_any_variable()` / `!isCompileTimeComputable(..)` -/
theorem C11_sites_complete : genCfg.SitesComplete := by decide

/-! ## soundness: whatever can write is reported by `changes_any_variable` -/

/-- General form: for every complete configuration, every program whose functions are declared before use
    (`$Recursion_is_not_allowed`; identifiers resolve to preceding declarations only) and every expression:
    if evaluating `e` may write some variable -- directly, in a sub-expression, through the body of a called function in any
    statement form (local initialisers included) and through any chain of calls, or through a non-constant reference
    parameter -- then `changes_any_variable()` is true for `e` under the `changes` sets the type checker computes.
    `dot` selects the spec without (`false`) or with (`true`) calls `P.f()` of process functions; the latter needs the
    call case to resolve such callees. -/
theorem C11_sound_general (cfg : Cfg) (hc : cfg.WritesComplete) (hx : cfg.CallsExact) (dot : Bool)
    (hdot : dot = true → cfg.writeCallResolvesDot = true) (P : List FunDecl)
    (hd : declaredBeforeUse P = true) (e : Expr) (h : MayWrite dot P e) : changesAny cfg (analyse cfg P) e = true :=
  h.elim fun _ hs => changesAny_of_mem (writes_sound hc hdot (analyse_consistent hx P hd) hs)

/-- C11 for the current source, every expression whose calls name their function by an identifier (all contexts of the
    property except queries that call a function of a process as `P.f()`, see `C11_witness_process_dot`).
    Full statement: `C11_sound_full_of_resolved`, whose premise fails as long as `collect_possible_writes` looks up
    `get(0).get_symbol()`, which for the callee `P.f` is the process `P`. -/
theorem C11_sound_partial (P : List FunDecl) (hd : declaredBeforeUse P = true) (e : Expr) (h : MayWrite false P e) :
    changesAny genCfg (analyse genCfg P) e = true :=
  C11_sound_general genCfg C11_tables_complete C11_calls_exact false (fun h => by cases h) P hd e h

/-- C11 at full strength (process-dot calls included) for a source whose call case resolves `P.f` callees
    (proposed_fixes/C11-process-dot-call.diff sets the premise; /repo has it, so the premise holds by `decide` and
    `c11Exceptions genCfg` is empty). -/
theorem C11_sound_full_of_resolved (hfix : genCfg.writeCallResolvesDot = true) (P : List FunDecl)
    (hd : declaredBeforeUse P = true) (e : Expr) (h : MayWrite true P e) : changesAny genCfg (analyse genCfg P) e = true :=
  C11_sound_general genCfg C11_tables_complete C11_calls_exact true (fun _ => hfix) P hd e h

/-- the written variable itself is in the computed set (what `changes_variable(set)` consults) -/
theorem C11_sound_symbol (P : List FunDecl) (hd : declaredBeforeUse P = true) (e : Expr) (s : Sym) (h : Writes false P e s) :
    s ∈ collectWrites genCfg (analyse genCfg P) e :=
  writes_sound C11_tables_complete (fun h => by cases h) (analyse_consistent C11_calls_exact P hd) h

/-- per function: a non-local variable written anywhere in the body is in `function_t::changes` -/
theorem C11_function_changes (P : List FunDecl) (hd : declaredBeforeUse P = true) (fd : FunDecl) (hfd : fd ∈ P) (b : Expr)
    (hb : b ∈ exprsOf fd.body) (s : Sym) (h : Writes false P b s) (hl : s ∉ fd.locals) (hp : s ∉ fd.params) :
    ∃ fi, (analyse genCfg P).find fd.name = some fi ∧ s ∈ fi.changes := by
  have hcons := analyse_consistent C11_calls_exact (cfg := genCfg) P hd
  exact ⟨_, hcons fd hfd, mem_funInfo_changes C11_tables_complete hb
    (writes_sound C11_tables_complete (fun h => by cases h) hcons h) hl hp⟩

/-! ### the hypotheses are satisfiable: a writer hidden in a do-while inside a for-each, called through a chain and through
    a reference parameter -/

/-- symbols: 1 = `w` (global), 2 = `wr`, 3 = `chain`, 4 = `viaRef`, 5 = its parameter `r`, 6 = local `l` of `chain`, 7 = `it` -/
def demoAssign (t : Sym) : Expr := .node .kASSIGN 0 [.node .kIDENTIFIER t [], .node .kCONSTANT 0 []]
def demoCall (f : Sym) (args : List Expr) : Expr := .node .kFUN_CALL 0 (.node .kIDENTIFIER f [] :: args)
def demoWr : FunDecl :=
  { name := 2, params := [], refNonConst := [], locals := [7],
    body := .block [] [.iterS 7 (.doWhileS (.block [] [.exprS (demoAssign 1)]) (.node .kCONSTANT 0 []))] }
def demoChain : FunDecl :=
  { name := 3, params := [], refNonConst := [], locals := [6],
    body := .block [.node .kCONSTANT 0 []] [.ifS (.node .kCONSTANT 0 []) (.exprS (demoCall 2 [])) .empty, .returnS (.node .kIDENTIFIER 6 [])] }
def demoViaRef : FunDecl :=
  { name := 4, params := [5], refNonConst := [true], locals := [], body := .block [] [.exprS (demoAssign 5)] }
def demoP : List FunDecl := [demoWr, demoChain, demoViaRef]

example : declaredBeforeUse demoP = true := by decide

/-- `chain() == 0` may write `w` -/
example : MayWrite false demoP (.node .kEQ 0 [demoCall 3 [], .node .kCONSTANT 0 []]) :=
  ⟨1, .sub (e := demoCall 3 []) (by simp)
    (.callBody (fd := demoChain) (b := demoCall 2 []) (by decide) (.ident 3 []) (by simp [demoP]) rfl (by simp [demoChain, exprsOf, exprsOfL])
      (.callBody (fd := demoWr) (b := demoAssign 1) (by decide) (.ident 2 []) (by simp [demoP]) rfl (by simp [demoWr, exprsOf, exprsOfL])
        (.direct (by decide) (.ident 1 [])) (by decide) (by decide))
      (by decide) (by decide))⟩

/-- `viaRef(w)` may write `w` -/
example : MayWrite false demoP (demoCall 4 [.node .kIDENTIFIER 1 []]) :=
  ⟨1, .callRef (fd := demoViaRef) (a := .node .kIDENTIFIER 1 []) (p := 5) (b := demoAssign 5) (by decide) (.ident 4 []) (by simp [demoP]) rfl
    (by simp [demoViaRef]) (by simp [demoViaRef, exprsOf, exprsOfL]) (.direct (by decide) (.ident 5 [])) (.ident 1 [])⟩

example : changesAny genCfg (analyse genCfg demoP) (.node .kEQ 0 [demoCall 3 [], .node .kCONSTANT 0 []]) = true := by decide

/-! ## exception set: calls of process functions in queries -/

/-- witness of `call-through-process-dot`: template function `twr` (symbol 2) writes the template variable `tw`
    (symbol 1); the query expression `P.twr()` (process `P` = symbol 3) may write `tw`, yet `changes_any_variable()` is
    false whenever the call case does not resolve `P.f` callees (so at the pinned commit; vacuous with the repair, which
    /repo has). -/
def witnessDotP : List FunDecl :=
  [{ name := 2, params := [], refNonConst := [], locals := [], body := .block [] [.exprS (demoAssign 1), .returnS (.node .kCONSTANT 0 [])] }]
def witnessDotCall : Expr := .node .kFUN_CALL 0 [.node .kDOT 2 [.node .kIDENTIFIER 3 []]]
theorem C11_witness_process_dot :
    MayWrite true witnessDotP witnessDotCall ∧
    (genCfg.writeCallResolvesDot = false → changesAny genCfg (analyse genCfg witnessDotP) witnessDotCall = false) :=
  ⟨⟨1, .callBody (fd := witnessDotP[0]) (b := demoAssign 1) (by decide) (.processDot 2 _ rfl (by decide)) (by simp [witnessDotP]) rfl
        (by simp [witnessDotP, exprsOf, exprsOfL]) (.direct (by decide) (.ident 1 [])) (by decide) (by decide)⟩,
   by decide⟩

/-- the computed exception set of the current source contains nothing but that shape -/
theorem C11_exceptions_today : ∀ x ∈ c11Exceptions genCfg, x ∈ ["call-through-process-dot"] := by decide

/-! ## the twin: nothing that cannot write is rejected for writing -/

/-- An expression without assignment / increment / decrement whose callees change nothing and take no non-constant
    reference parameter has an empty write set, for every configuration listing only the language's writing and call kinds. -/
theorem C11_twin_general (cfg : Cfg) (hx : cfg.WritesExact) (env : Env) (e : Expr) (h : pureExpr env e = true) :
    changesAny cfg env e = false := by
  simp [changesAny, pure_collectWrites hx e h]

theorem C11_twin (P : List FunDecl) (e : Expr) (h : pureExpr (analyse genCfg P) e = true) :
    changesAny genCfg (analyse genCfg P) e = false :=
  C11_twin_general genCfg C11_tables_exact _ e h

/-- A function whose body writes only its own locals and parameters has an empty `changes` set (visitFunction erases
    both), so calls of it are `pureExpr` callees -- the twin "write goes to a local / by-value parameter instead". -/
theorem C11_twin_local_writes (env : Env) (fd : FunDecl)
    (h : ∀ s ∈ collectStmt genCfg.visit (collectWrites genCfg env) fd.body, s ∈ fd.locals ∨ s ∈ fd.params) :
    (funInfo genCfg env fd).changes = [] :=
  funInfo_changes_nil (by decide) (by decide) env fd h

/-- satisfiable: reading `w` and calling a function that only writes its own local and its by-value parameter -/
def demoPure : List FunDecl :=
  [ { name := 2, params := [5], refNonConst := [false], locals := [6],
      body := .block [.node .kIDENTIFIER 5 []] [.exprS (demoAssign 6), .exprS (demoAssign 5), .returnS (.node .kIDENTIFIER 6 [])] } ]
example : pureExpr (analyse genCfg demoPure) (.node .kEQ 0 [demoCall 2 [.node .kIDENTIFIER 1 []], .node .kIDENTIFIER 1 []]) = true := by
  decide

/-- In each context of the property that has its own side-effect check (guard, invariant, synchronisation, probability,
    variable / local initialiser, instantiation argument, quantified body, assertion, query) an expression with
    `changes_any_variable()` is rejected whatever the earlier checks of that site said. -/
theorem C11_contexts : ∀ c ∈ Context.all, c.site ≠ none → ∀ typedOk computable : Bool,
    c.rejects genCfg typedOk computable true = true := by decide

/-- The remaining contexts (select domain, array size, range bound) only test compile-time computability:
    a non-computable expression is rejected there. (That a *write* makes the expression non-computable unless it
    targets a constant is `C13`'s read analysis; a write to a constant is C12's lvalue rule.) -/
theorem C11_contexts_computable : ∀ c ∈ Context.all, c.site = none → ∀ typedOk changes : Bool,
    c.rejects genCfg typedOk false changes = true := by decide

theorem C11_erase_alike : genCfg.EraseAlike := by decide

/-- Select domain, array size, range bound (no side-effect test of their own): whatever an expression accepted as
    compile-time computable could write is itself a compile-time constant or a function symbol -- every written symbol is
    also a read symbol (`collect_possible_writes ⊆ collect_possible_reads`, per function `changes ⊆ depends`).  A constant
    is not a modifiable lvalue (property C12), so no accepted expression in these contexts writes a variable.
    (`extFree` / `bodiesExtFree`: no call of an external, dlopen'ed function, whose effects the library cannot see.) -/
theorem C11_computable_contexts_no_write (P : List FunDecl) (hb : bodiesExtFree genCfg P = true) (tab : SymTab) (e : Expr)
    (hf : extFree genCfg e = true) (hctc : isCTC genCfg (analyse genCfg P) tab e = true) :
    ∀ s ∈ collectWrites genCfg (analyse genCfg P) e, symOk tab s = true := by
  intro s hs
  exact symOk_of_isCTC hctc
    (writes_sub_reads C11_tables_exact (by decide) (analyse_envSub C11_tables_exact C11_erase_alike P hb) e _ hf hs)

/-- satisfiable, and sharp: `int z[pure(C)]` with a pure callee is accepted; `int z[(w = 1)]` is not computable -/
example : bodiesExtFree genCfg demoPure = true ∧
    isCTC genCfg (analyse genCfg demoPure) [(2, ⟨true, false⟩), (9, ⟨false, true⟩)] (demoCall 2 [.node .kIDENTIFIER 9 []]) = true ∧
    isCTC genCfg (analyse genCfg demoPure) [(2, ⟨true, false⟩), (1, ⟨false, false⟩)] (demoAssign 1) = false := by decide

/-- and the twin is not rejected by these checks: well-typed, computable, write-free passes every context -/
theorem C11_contexts_twin : ∀ c ∈ Context.all, c.rejects genCfg true true false = false := by decide

/-! ## array sizes: every dimension is a context of its own (Model/TypeWalk.lean) -/

/-- `T z[s₁][s₂]…[sₙ]` -/
def arrayOf (base : TypeWalk.WTy) : List TypeWalk.WTy → TypeWalk.WTy
  | [] => base
  | s :: ss => .array s (arrayOf base ss)

theorem arrayOf_wellKinded (base : TypeWalk.WTy) (sizes : List TypeWalk.WTy) :
    (arrayOf base sizes).wellKinded = (sizes.all (·.wellKinded) && base.wellKinded) := by
  induction sizes with
  | nil => rfl
  | cons s ss ih => rw [arrayOf, TypeWalk.WTy.wellKinded, ih, List.all_cons, Bool.and_assoc]

theorem arrayOf_exprs (base : TypeWalk.WTy) (sizes : List TypeWalk.WTy) :
    (arrayOf base sizes).exprs = sizes.flatMap (·.exprs) ++ base.exprs := by
  induction sizes with
  | nil => rfl
  | cons s ss ih => rw [arrayOf, TypeWalk.WTy.exprs, ih, List.flatMap_cons, List.append_assoc]

/-- The size expression of EVERY dimension of an array declaration -- first, inner, last, whatever the element type is (a
    typedef name of a further array type included) -- is handed to the checks that reject a size whose evaluation can write
    (`C11_computable_contexts_no_write`): today's `checkType` leaves no dimension out. -/
theorem C11_every_dimension_checked (base : TypeWalk.WTy) (hb : base.wellKinded = true) (sizes : List TypeWalk.WTy)
    (hs : ∀ s ∈ sizes, s.wellKinded = true) : ∀ s ∈ sizes, ∀ x ∈ s.exprs, x ∈ TypeWalk.visits genWalk (arrayOf base sizes) := by
  intro s hin x hx
  have hw : (arrayOf base sizes).wellKinded = true := by
    rw [arrayOf_wellKinded, hb, List.all_eq_true.mpr hs, Bool.and_self]
  rw [TypeWalk.visits_eq_exprs genWalk (by decide) _ hw, arrayOf_exprs]
  exact List.mem_append_left _ (List.mem_flatMap_of_mem hin hx)

end UtapModel.C11
