/- C01 (the part that is logic): stack discipline of the builder callbacks along every derivation of parser.y,
   including bison's error recovery.  Property theorems only; the generic soundness proof is in Lemmas/C01.lean, the
   production table is regenerated from /repo/src/parser.y (+ `bison -x`) into Gen/Grammar.lean on every run, the effect
   table (Model/C01Effect.lean) is validated against the real library on every traced call.

   PARTIAL claim.  Full-strength C01 ("no input crashes, corrupts memory or hangs any parsing entry point") is NOT
   provable here: memory safety of the flex/bison tables, libxml2, the heap, recursion depth and running time have no
   Lean model (no C++ semantics is available); they are exercised under sanitizers by checks/c01_stream.py (testing).
   What is proved: on the model of the builder stacks (heights of fragments / typeFragments / frames / fields /
   properties, the static `types` counter and the `current...` pointers as set / unset), every callback sequence that any
   derivation -- complete, abandoned at any symbol boundary, or recovering through `error` productions -- of the
   production table can emit never makes a callback reach below what its stack holds, provided only productions outside
   the *computed* exception set are used.  The exception set of today's table is pinned by `utap_exceptions_known`. -/
import UtapModel.Lemmas.C01
import UtapModel.Lemmas.C01Table
namespace UtapModel.C01
open UtapModel.Gen.Grammar

/-! ## generic theorem (any table, any effects, any signatures) -/

/-- **Stack safety from local balance.**  If every production of `G` passes the decidable local check, then every run
    of every nonterminal `B` -- complete (`part = false`) or abandoned anywhere / recovering (`part = true`) -- started
    with at least `need B` entries is safe (`runH` never fails), never ends below `entry - dip B` (so whatever encloses
    it keeps its operands; nothing is said of a stack that `B` may reset, `lo = none`), and a complete run ends at least at
    `entry + c0 + c1*attr`. -/
theorem safe_of_locally_balanced {CB NT : Type} (G : List (Prod CB NT)) (sig : NT → Sig) (eff : CB → Eff)
    (hG : ∀ p ∈ G, lbProd sig eff p = true) (hwf : ∀ cb, (eff cb).wf = true)
    (part : Bool) (B : NT) (v : Nat) (tr : List (CallInst CB)) (hrun : RunNT G part B v tr)
    (h : Int) (hentry : ((sig B).need : Int) ≤ h) :
    ∃ h', runH eff h tr = some h' ∧ 0 ≤ h' ∧
      ((sig B).lo.isSome → h - (sig B).dip ≤ h') ∧
      (part = false → ∀ c0 c1, (sig B).lo = some (c0, c1) → h + c0 + c1 * v ≤ h') :=
  runNT_meets hG hwf hrun h hentry

-- the hypotheses are satisfiable by a non-trivial table: one production  E -> E E {binary}  |  {push}
example : ∃ (G : List (Prod Nat Nat)) (sig : Nat → Sig) (eff : Nat → Eff),
    G.length = 2 ∧ (∀ p ∈ G, lbProd sig eff p = true) ∧ (∀ cb, (eff cb).wf = true) :=
  ⟨[⟨0, 0, [.act [⟨0, .none⟩]], ⟨0, []⟩⟩, ⟨1, 0, [.nt 0, .nt 0, .act [⟨1, .none⟩]], ⟨0, []⟩⟩],
   fun _ => ⟨0, 0, some (1, 0)⟩, fun cb => if cb = 0 then e 0 0 1 else e 2 2 1, rfl, by decide,
   by intro cb; by_cases h : cb = 0 <;> simp [h, Eff.wf, e]⟩

/-! ## instance: today's parser.y -/

/-- every entry of the effect table (the hand-written rows of `effectRow` with the generated adjustments of `effect` on
    top) is well formed: on neither outcome does a callback remove more than the `need` it declares, which is what the
    generic theorem assumes of the effects (`hwf`) -/
theorem effect_wf : ∀ (s : Stack) (cb : CB), (utapEff s cb).wf = true :=
  fun s cb => effect_wf_of_row (effectRow_wf cb s)

/-- heights of the model stacks when a parse call starts on a fresh builder: one frame (the global frame) -/
def initHeight : Stack → Int
  | .R => 1
  | _ => 0

theorem init_meets_entry : ∀ s : Stack, ((utapSig s startNT).need : Int) ≤ initHeight s := by
  intro s; cases s <;> decide

/-- **C01, stack part (partial: outside the computed exception set).**  For every stack of the model, every callback
    trace of every complete, aborted or error-recovering derivation of the start symbol that uses only productions
    that pass the obligation on that stack (i.e. outside `utapExceptionsOn s`) is safe from the initial heights: no callback reaches below what is there. -/
theorem C01_stack_safety_partial (s : Stack) (part : Bool) (v : Nat) (tr : List (CallInst CB))
    (hrun : RunNT (utapGood s) part startNT v tr) :
    ∃ h', runH (utapEff s) (initHeight s) tr = some h' ∧ 0 ≤ h' := by
  obtain ⟨h', h1, h2, _⟩ :=
    runNT_meets (utapGood_lb s) (effect_wf s) hrun (initHeight s) (init_meets_entry s)
  exact ⟨h', h1, h2⟩

/-- the same for every nonterminal (every `xta_part_t` entry point starts at one of them) and any entry heights that
    meet the nonterminal's requirement; also: a run never ends below `entry - dip` (on a stack it cannot reset). -/
theorem C01_stack_safety_any_entry (s : Stack) (part : Bool) (B : NT) (v : Nat) (tr : List (CallInst CB))
    (hrun : RunNT (utapGood s) part B v tr) (h : Int) (hentry : ((utapSig s B).need : Int) ≤ h) :
    ∃ h', runH (utapEff s) h tr = some h' ∧ 0 ≤ h' ∧ ((utapSig s B).lo.isSome → h - (utapSig s B).dip ≤ h') := by
  obtain ⟨h', h1, h2, h3, _⟩ := runNT_meets (utapGood_lb s) (effect_wf s) hrun h hentry
  exact ⟨h', h1, h2, h3⟩

/-! ## the XML reader's own operand-consuming call

`XMLReader::location` parses the `invariant` / `exponentialrate` labels with `parse_XTA(text, builder, newxta, S_INVARIANT |
S_EXPONENTIAL_RATE)` and passes `hasInvariant` / `hasER = true` to `proc_location` **only when that parse returned 0**
(src/xmlreader.cpp `invariant()`), i.e. after a *complete* (possibly error-recovering) derivation of the start
alternative.  `proc_location` is the only direct call of the reader that consumes operands.  (The reader's call
sequences as a whole are not modelled; these lemmas cover the hand-over of operands.) -/

theorem C01_reader_location_invariant (tok : NT) (htok : tok = .Start_T_NEW_INVARIANT ∨ tok = .Start_T_OLD_INVARIANT)
    (v : Nat) (tr : List (CallInst CB)) (hrun : RunNT (utapGood .F) false tok v tr) (h : Int) (h0 : 0 ≤ h) :
    ∃ h', runH (utapEff .F) h (tr ++ [⟨.proc_location_true_false, 0, false, 0⟩]) = some h' ∧ 0 ≤ h' := by
  have hsig : (utapSig .F tok).lo = some (1, 0) ∧ (utapSig .F tok).need = 0 := by
    rcases htok with rfl | rfl <;> decide
  obtain ⟨h1, hr, hb⟩ := runNT_pushes (utapGood_lb .F) (effect_wf .F) hrun hsig.1 hsig.2 h0
  exact ⟨h1 + -1, runH_snoc (need := 1) hr rfl (by omega), by omega⟩

theorem C01_reader_location_rate (v : Nat) (tr : List (CallInst CB))
    (hrun : RunNT (utapGood .F) false .Start_T_EXPONENTIAL_RATE v tr) (h : Int) (h0 : 0 ≤ h) :
    ∃ h', runH (utapEff .F) h (tr ++ [⟨.proc_location_false_true, 0, false, 0⟩]) = some h' ∧ 0 ≤ h' := by
  obtain ⟨h1, hr, hb⟩ := runNT_pushes (utapGood_lb .F) (effect_wf .F) hrun (c0 := 1) (by decide) (by decide) h0
  exact ⟨h1 + -1, runH_snoc (need := 1) hr rfl (by omega), by omega⟩

/-- both labels: invariant, then rate (any further *failed* label parses in between only add operands) -/
theorem C01_reader_location_both (v1 v2 : Nat) (tr1 tr2 : List (CallInst CB))
    (hrun1 : RunNT (utapGood .F) false .Start_T_NEW_INVARIANT v1 tr1)
    (hrun2 : RunNT (utapGood .F) false .Start_T_EXPONENTIAL_RATE v2 tr2) (h : Int) (h0 : 0 ≤ h) :
    ∃ h', runH (utapEff .F) h ((tr1 ++ tr2) ++ [⟨.proc_location_true_true, 0, false, 0⟩]) = some h' ∧ 0 ≤ h' := by
  obtain ⟨h1, hr1, hb1⟩ := runNT_pushes (utapGood_lb .F) (effect_wf .F) hrun1 (c0 := 1) (by decide) (by decide) h0
  obtain ⟨h2, hr2, hb2⟩ :=
    runNT_pushes (utapGood_lb .F) (effect_wf .F) hrun2 (c0 := 1) (by decide) (by decide) (h := h1) (by omega)
  have hr12 : runH (utapEff .F) h (tr1 ++ tr2) = some h2 := runH_append_some hr1 hr2
  exact ⟨h2 + -2, runH_snoc (need := 2) hr12 rfl (by omega), by omega⟩

-- non-vacuity: on the operand stack all but at most three productions are good, and every start alternative is
example : (utapGood .F).length + 3 ≥ prods.length ∧ ((utapGood .F).filter (fun p => p.lhs == startNT)).length = 29 := by
  rw [utapGood_eq]
  decide +kernel

/-! ## the exception set of today's table, pinned -/

/-- **today's exception set is within the known shapes** (`knownExceptionKeys`, Model/C01Pin.lean): for every stack,
    every production failing the obligation is one of the listed (production, stack) shapes.  Finite check over the
    generated table by kernel evaluation (`pinned_all`, in the form `pinnedFast` of Lemmas/C01Table.lean). -/
theorem utap_exceptions_known : ∀ s : Stack, pinnedOn s = true :=
  fun s => pinnedFast_eq s ▸ pinned_all s (Stack.mem_all s)

/-! ## witnesses: the model rejects the callback traces the real parser emits on the witness inputs
   (those that depend on a *generated* unguarded-dereference flag are stated under that flag, so that they stay true
   when the guard is added to the source) -/

/-- `void f(){ if () ; }` before /repo commit 7425e2e: IfCondition's error production pushed no condition, `if_end`
    read `fragments[0]`. -/
theorem C01_witness_if_end :
    runH (utapEff .F) 0 [⟨.if_begin, 0, false, 0⟩, ⟨.empty_statement, 0, false, 0⟩, ⟨.if_then, 0, false, 0⟩,
                         ⟨.if_end, 0, false, 0⟩] = none := by decide

/-- `int a[int[0,1]][struct{int b[2];}];`: the nested declarator resets `types`; the outer
    `type_array_of_type(types--)` runs with `types = 0`. -/
theorem C01_witness_types_counter :
    runH (utapEff .C) 0 [⟨.ps_types_reset, 0, false, 0⟩, ⟨.ps_types_inc, 0, false, 0⟩, ⟨.ps_types_reset, 0, false, 0⟩,
                         ⟨.type_array_of_type, 0, false, 0⟩] = none := by decide

/-- `strategy s = control: A[] undeclared`: `property()` returns early without pushing a PropInfo,
    `strategy_declaration` takes `&properties.back()` of an empty list. -/
theorem C01_witness_strategy_declaration : ptrDeref .strategy_declaration .Q = true →
    runH (utapEff .Q) 0 [⟨.property, 0, true, 0⟩, ⟨.strategy_declaration, 0, false, 0⟩] = none := by decide

/-- `trans X -> L0 { select i : int[0,1]; }` with undeclared `X`: `proc_edge_begin` fails (no edge is created),
    `proc_select` dereferences the null `currentEdge`. -/
theorem C01_witness_proc_select : ptrDeref .proc_select .E = true →
    runH (utapEff .E) 0 [⟨.proc_edge_begin, 0, true, 0⟩, ⟨.proc_select, 0, false, 0⟩] = none := by decide

/-- `parse_XTA("I", builder, newxta, S_INSTANCE_LINE)` on a fresh builder: `instance_name` dereferences the null
    `currentInstanceLine`. -/
theorem C01_witness_instance_name : ptrDeref .instance_name_false .L = true →
    runH (utapEff .L) 0 [⟨.instance_name_false, 0, false, 0⟩] = none := by decide

end UtapModel.C01
