/- C04 -- the document built from an XML model mirrors the XML's structure exactly.

   Model: `renderXml : AModel → Xml` (Model/Xml.lean), `readXml : Xml → List Call` (tree-level model of
   src/xmlreader.cpp), `build : List Call → BState` (model of the DocumentBuilder / document.cpp callbacks,
   Model/XmlBuild.lean), specification `docOf : AModel → Doc` (Model/AModel.lean).  Helper lemmas:
   Lemmas/C04Reader.lean, Lemmas/C04Builder.lean.  The tie to /repo is the correspondence run of checks/c04.py. -/
import UtapModel.Lemmas.C04Builder
import UtapModel.Model.AModelIO
import UtapModel.Gen.XmlTables
namespace UtapModel.AM

/-- a small model using every feature: parameters, local declarations, named and anonymous locations, both location
    labels, urgent / committed, a branchpoint, all edge labels in a non-standard order, a self loop, parallel edges,
    a partial and a full instantiation, priorities -/
def sampleModel : AModel :=
  { gdecls := [{ cat := .var, name := "gn", key := "d0", trace := ["decl_var gn"] }],
    templates := [
      { name := "T", params := [{ name := "a", ref := false, key := "p0" }, { name := "b", ref := true, key := "p1" }],
        decls := [{ cat := .var, name := "x", key := "d1", trace := ["decl_var x"] }],
        locs := [{ id := "id0", name := some "L0", labels := [(.invariant, "e0"), (.exponentialrate, "e1")], urgent := false, committed := false },
                 { id := "id1", name := none, labels := [(.exponentialrate, "e2")], urgent := true, committed := false },
                 { id := "id2", name := some "L2", labels := [], urgent := false, committed := true }],
        bps := ["id3"], init := some "id0",
        edges := [{ src := "id0", tgt := "id1", ctrl := some false,
                    labels := [.select [("i", "t0"), ("j", "t1")], .assign "e5", .guard "e3", .sync "e4" .bang] },
                  { src := "id1", tgt := "id3", ctrl := none, labels := [] },
                  { src := "id3", tgt := "id2", ctrl := some true, labels := [.prob "e6"] },
                  { src := "id3", tgt := "id2", ctrl := none, labels := [.prob "e7", .assign "e8"] },
                  { src := "id2", tgt := "id2", ctrl := none, labels := [.sync "e9" .que] }] }],
    insts := [{ name := "P", params := [{ name := "q", ref := false, key := "p2" }], templ := "T", args := ["e10", "e11"] },
              { name := "Q", params := [], templ := "P", args := ["e12"] }],
    procs := [("Q", false), ("P", true)] }

example : sampleModel.wf = true := by decide +kernel

/-- **Reader.**  On the rendering of a well-formed model the recursive descent emits exactly the closed-form callback
    sequence `xmlCalls M`: per template its parameters, `proc_begin`, the declarations, per location the label
    expressions in document order followed by `proc_location name hasInvariant hasRate` (+ commit / urgent), the
    branchpoints, the init reference and per transition `proc_edge_begin` with the *names* the ids denote, the labels
    in document order and `proc_edge_end`. -/
theorem C04_reader (M : AModel) (h : M.wf = true) : readXml (renderXml M) = xmlCalls M :=
  readXml_render M fun t ht => (templWf_of_wf h t ht).reader

/-- **C04, structure.**  For every well-formed abstract model (any number of templates, locations, branchpoints, edges,
    labels, instantiations, processes) the document built from its XML rendering is the document the model denotes --
    nothing added, dropped, duplicated or attached to another element -- and the builder ends with an empty expression
    stack, no open template and no open edge. -/
theorem C04_roundtrip (M : AModel) (h : M.wf = true) :
    (build (readXml (renderXml M))).doc = docOf M ∧ (build (readXml (renderXml M))).frags = [] ∧
    (build (readXml (renderXml M))).cur = none ∧ (build (readXml (renderXml M))).edge = none := by
  obtain ⟨es, p, hb⟩ := build_xmlCalls M (templWf_of_wf h)
  rw [C04_reader M h, hb]
  exact ⟨rfl, rfl, rfl, rfl⟩

/-- **C04, diagnostics.**  The templates of a well-formed model are built without any builder diagnostic (no duplicate
    definition, no unresolved location, no label outside an edge). -/
theorem C04_templates_no_errors (M : AModel) (h : M.wf = true) :
    (run {} (M.gdecls.map .declItem ++ M.templates.flatMap templCallsX)).errs = [] := by
  rw [run_decls_templs templCallsX M fun t ht => run_templ t (templWf_of_wf h t ht)]
  rfl

/-- **C04 (outside the exception set).**  For every well-formed model (`wf0`: ids unique per template, references
    resolve in their template, distinct names, at most one label of each kind) none of whose locations has the computed
    exception shape, the document built from the XML is the document the model denotes.

    Full-strength statement -- NOT provable, `C04_witness_rate_before_invariant` refutes it:
      theorem C04_full (M : AModel) (h : M.wf0 = true) : (build (readXml (renderXml M))).doc = docOf M            -/
theorem C04_partial (M : AModel) (h : M.wf0 = true) (hx : M.exceptionShapes = []) :
    (build (readXml (renderXml M))).doc = docOf M :=
  (C04_roundtrip M (M.wf_of_wf0 h hx)).1

example : sampleModel.wf0 = true ∧ sampleModel.exceptionShapes = [] := by decide +kernel

def BTempl.objectCount (t : BTempl) : Nat × Nat × Nat × Nat × Nat :=
  (t.params.length, t.decls.length, t.locs.length, t.bps.length, t.edges.length)

def ATempl.objectCount (t : ATempl) : Nat × Nat × Nat × Nat × Nat :=
  (t.params.length, t.decls.length, t.locs.length, t.bps.length, t.edges.length)

/-- **C04, counts.**  The built document has one template per `<template>`, and each has exactly as many parameters,
    declaration items, locations, branchpoints and edges as the XML. -/
theorem C04_no_extra (M : AModel) (h : M.wf = true) :
    (build (readXml (renderXml M))).doc.gdecls = M.gdecls ∧
    (build (readXml (renderXml M))).doc.templates.map BTempl.objectCount = M.templates.map ATempl.objectCount := by
  rw [(C04_roundtrip M h).1, (docOf_static M).1, (docOf_static M).2, List.map_map]
  refine ⟨rfl, List.map_congr_left fun t ht => ?_⟩
  simp only [Function.comp, BTempl.objectCount, ATempl.objectCount, templOf_edges_length t (templWf_of_wf h t ht)]
  simp [templOf]

/-- **C04, arguments.**  `bindFirst` (the loop `mapping[inst.parameters[i]] = arguments[i]` of `Document::add_instance`)
    binds the i-th argument to the i-th parameter of the instantiated (partial) instance and leaves the others alone. -/
theorem C04_args_positional (args : List Key) (bs : List (Param × Option Key)) (h : args.length ≤ bs.length) :
    bindFirst args bs = List.zipWith (fun a b => (b.1, some a)) args bs ++ bs.drop args.length :=
  bindFirst_eq args bs

/-- what an instantiation `name(newParams) = templ(args)` adds to the document: the new instance lists its own
    parameters (unbound) followed by those of the instantiated instance, the first `args.length` of which are bound to
    the arguments in order -/
theorem C04_instance_binding (d : Doc) (i : AInst) (old : BInst) (hf : findInst d i.templ = some old)
    (hn : i.args.length = old.unbound) (hu : old.unbound ≤ old.bparams.length) :
    (addInst d i).instances = d.instances ++
      [{ name := i.name, templ := old.templ, unbound := i.params.length, arguments := i.args.length,
         bparams := i.params.map (·, none) ++
                    (List.zipWith (fun a b => (b.1, some a)) i.args old.bparams ++ old.bparams.drop i.args.length) }] := by
  simp only [addInst, hf, hn, ↓reduceIte, mkInst, bindFirst_eq]

example : (docOf sampleModel).processes.map (fun p => (p.name, p.bparams.map (fun b => (b.1.name, b.2)))) =
    [("Q", [("q", some "e12"), ("a", some "e10"), ("b", some "e11")]), ("P", [("q", none), ("a", some "e10"), ("b", some "e11")])] := by
  decide +kernel

/-! ### exception shape: the rate label before the invariant label (DESIGN F-C04-1) -/

/-- the hypothesis `labelsOrdered` of `ALoc.wf` cannot be dropped: with the `exponentialrate` label *before* the
    `invariant` label the reader pushes the rate first, and `proc_location` pops "the rate" from the top of the stack --
    which is the invariant -/
def rateFirstModel : AModel :=
  { gdecls := [],
    templates := [{ name := "T", params := [], decls := [],
                    locs := [{ id := "id0", name := some "L0", labels := [(.exponentialrate, "RATE"), (.invariant, "INV")],
                               urgent := false, committed := false }],
                    bps := [], init := some "id0", edges := [] }],
    insts := [], procs := [("T", false)] }

example : rateFirstModel.wf0 = true ∧ rateFirstModel.exceptionShapes = [.rateBeforeInvariant] := by decide +kernel

theorem C04_witness_rate_before_invariant :
    (build (readXml (renderXml rateFirstModel))).doc.templates.map (·.locs) =
      [[{ name := "L0", inv := some "RATE", rate := some "INV", urgent := false, committed := false }]] ∧
    (docOf rateFirstModel).templates.map (·.locs) =
      [[{ name := "L0", inv := some "INV", rate := some "RATE", urgent := false, committed := false }]] := by
  decide +kernel

/-! ### tie to the current source (tables generated by translate/xml_tables.py) -/

open Gen.XmlTables in
/-- **tie, reader tables.**  The element names `begin()` knows, the label kind → grammar entry point map of
    `XMLReader::label`, the two kinds and result codes of `XMLReader::invariant`, the id-derived names, the
    most-recent-wins `names` map and the default of `controllable` in the model are those of the current source. -/
theorem C04_tables_reader :
    knownTags = Gen.XmlTables.knownTags ∧
    (["invariant", "select", "guard", "synchronisation", "assignment", "probability"].map
        fun k => (k, match labelPart k with
                     | some .invariant => "S_INVARIANT" | some .select => "S_SELECT" | some .guard => "S_GUARD"
                     | some .sync => "S_SYNC" | some .assign => "S_ASSIGN" | some .probability => "S_PROBABILITY"
                     | _ => "?")) = edgeLabelKinds.take 6 ∧
    (edgeLabelKinds.drop 6).map (·.1) = ["message", "update", "condition"] ∧
    locLabelKinds = [("invariant", "S_INVARIANT", "0"), ("exponentialrate", "S_EXPONENTIAL_RATE", "1")] ∧
    locResultCodes = [("invariant", "0"), ("exponentialrate", "1")] ∧
    controllableDefaultTrue = true ∧ anonymousLocationPrefix = "_" ∧ branchpointPrefix = "_" ∧ namesLastWins = true :=
  ⟨rfl, rfl, rfl, rfl, rfl, rfl, rfl, rfl, rfl⟩

open Gen.XmlTables in
/-- **tie, reader order.**  The callbacks of `XMLReader::location` and their order, the order of the parts of
    `XMLReader::templ` and of `XMLReader::transition` are those of the model. -/
theorem C04_tables_order :
    (readLocation {} [("id", "i")] [.elem "urgent" [] [], .elem "committed" [] []]).out.map callName = readerLocationCallbacks ∧
    readerTemplateOrder = ["name", "parameter", "proc_begin", "declaration", "location", "branchpoint", "init", "transition", "proc_end"] ∧
    readerTransitionOrder = ["source", "target", "proc_edge_begin", "label", "proc_edge_end"] ∧
    ((xmlCalls sampleModel).map callName).eraseDups.filter
        (fun n => n ∈ ["decl_parameter", "proc_begin", "proc_location", "proc_branchpoint", "proc_location_init", "proc_edge_begin", "proc_end"])
      = ["decl_parameter", "proc_begin", "proc_location", "proc_branchpoint", "proc_location_init", "proc_edge_begin", "proc_end"] := by
  decide +kernel

open Gen.XmlTables in
/-- **tie, builder.**  `DocumentBuilder::proc_location` pops the rate first and hands (invariant, rate) to `add_location` in
    that order; each label callback writes the edge field of the model; `add_edge` stores source as source and target
    as target; `add_instance` binds `arguments[i]` to `parameters[i]`. -/
theorem C04_tables_builder :
    procLocationPops = [("rate", "er"), ("invariant", "inv")] ∧
    ((step { frags := ["top", "below"], cur := some { name := "T", params := [], decls := [], locs := [], bps := [], init := none, edges := [] } }
        (.procLocation "L" true true)).cur.map (fun t => t.locs.map (fun l => (l.rate, l.inv)))) = some [(some "top", some "below")] ∧
    edgeLabelFields = [("proc_guard", "guard"), ("proc_sync", "sync"), ("proc_update", "assign"), ("proc_prob", "prob")] ∧
    addEdgeEndpoints = [("src", "src"), ("dst", "dst")] ∧ addInstanceBinding = ["i", "i"] :=
  ⟨rfl, rfl, rfl, rfl, rfl⟩

end UtapModel.AM
