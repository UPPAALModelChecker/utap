/-
C06 — every diagnostic points into the element, line and columns that caused it.

What is proved here, for *all* inputs of the models (no bounds):

  (find)     on every monotone table the binary search of position.cpp returns the last entry `≤ pos`;
  (linecol)  the line table the lexer builds while scanning *any* text resolves every settled position (every lexeme
             boundary, every position inside a lexeme before its first newline) to the reference
             "count the newlines" line and column — for the rule table regenerated from lexer.l, as long as the
             position counter stays below 2^32, under the single hypothesis on the text that no string literal
             contains a newline (exception shape `string-newline`);
  (xpath)    the XPath string `Path::str` prints for the node the reader stands on selects exactly that node,
             provided the rows of `Path::str` used on the way agree with `tag_map` (exception shape `xpath-name:<TAG>`);
  (ranges)   token locations lie in the block and are ordered; YYLLOC_DEFAULT keeps both;
  (token)    a one-line token's diagnostic covers exactly the token: same line, columns `c` and `c + length`.

The definitions are tied to /repo on every run: `Gen/LexRules.lean`, `Gen/PosGen.lean`, `Gen/PathTable.lean` are
regenerated from lexer.l, libparser.h, position.cpp, document.cpp, xmlreader.cpp, and the `tie_*` theorems below say
that the regenerated definitions are the hand-written model the general theorems speak about.
-/
import UtapModel.Model.Loc
import UtapModel.Gen.LexRules
import UtapModel.Gen.PosGen
import UtapModel.Gen.PathTable
import UtapModel.Model.PathCheck
import UtapModel.Lemmas.LexAll
import UtapModel.Lemmas.XPath

namespace UtapModel.C06
open UtapModel.Pos UtapModel.LexLines UtapModel.Loc

theorem tie_setPath0 (t : Tracker) (s : String) : PosGen.setPath0 t s = (t.setPath s, [(t.setPath s).entry]) := by
  simp [PosGen.setPath0, Tracker.setPath, Tracker.entry, W]

theorem tie_setPath1 (t : Tracker) (s : String) : PosGen.setPath1 t s = (t.setPath s, [(t.setPath s).entry]) := by
  simp [PosGen.setPath1, Tracker.setPath, Tracker.entry, W]

theorem tie_increment (t : Tracker) (n : Nat) :
    PosGen.increment t n = (t.increment n, [], some (t.position % W, (t.position + n) % W)) := by
  simp [PosGen.increment, Tracker.increment]

theorem tie_newline (t : Tracker) (n : Nat) : PosGen.newline t n = (t.newline n, [(t.newline n).entry]) := by
  simp [PosGen.newline, Tracker.newline, Tracker.entry]

theorem tie_add (idx : Index) (e : Line) : PosGen.add idx e = idx.add e := rfl

theorem tie_findLoop (idx : Index) (pos : Nat) (first last : Nat) :
    PosGen.findLoop idx pos first last = findLoop idx pos first last := by
  induction first, last using findLoop.induct idx pos with
  | case1 first last hc i hp ih => rw [PosGen.findLoop, findLoop, dif_pos hc, dif_pos hc, if_pos hp, if_pos hp, ih]
  | case2 first last hc i hp ih => rw [PosGen.findLoop, findLoop, dif_pos hc, dif_pos hc, if_neg hp, if_neg hp, ih]
  | case3 first last hc => rw [PosGen.findLoop, findLoop, dif_neg hc, dif_neg hc]

theorem tie_find (idx : Index) (pos : Nat) : PosGen.find idx pos = idx.find pos := by
  simp only [PosGen.find, Index.find, tie_findLoop]

/-- `Document::add_error` resolves the start of the range for `error_t::start` and the end for `error_t::end` -/
theorem tie_add_error (idx : Index) (a b : Nat) (ea eb : Line) (ha : idx.find a = .ok ea) (hb : idx.find b = .ok eb) :
    PosGen.add_error idx a b = .ok (ea, eb) := by
  simp [PosGen.add_error, tie_find, ha, hb]

theorem tie_add_warning (idx : Index) (a b : Nat) (ea eb : Line) (ha : idx.find a = .ok ea) (hb : idx.find b = .ok eb) :
    PosGen.add_warning idx a b = .ok (ea, eb) := by
  simp [PosGen.add_warning, tie_find, ha, hb]

/-- every rule of today's lexer.l reports exactly the newlines its pattern matches (the string rule aside) -/
theorem tie_rules_faithful : Faithful LexRulesGen.rules = true := by decide +kernel

/-- in both start conditions every character is matched by some rule: the scanner never jams -/
theorem tie_rules_covering : Covering LexRulesGen.rules = true := by decide +kernel

/-- **C06_find**: on a monotone, non-empty table the binary search returns the last entry whose position is `≤ pos`
    (the first entry when there is none). -/
theorem C06_find (idx : Index) (hm : Monotone idx) (hne : idx ≠ []) (pos : Nat) :
    ∃ r, IsLastLE idx pos r ∧ idx.find pos = .ok (idx.getD r default) ∧
      ∀ r', IsLastLE idx pos r' → r' = r := by
  have h := findLoop_isLastLE hm hne pos
  exact ⟨_, h, find_of_isLastLE hm h, fun r' hr' => hr'.unique h⟩

example : Monotone [⟨1, 0, 1, "/p"⟩, ⟨8, 7, 2, "/p"⟩, ⟨8, 7, 3, "/p"⟩, ⟨20, 19, 5, "/p"⟩] ∧
    (Index.find [⟨1, 0, 1, "/p"⟩, ⟨8, 7, 2, "/p"⟩, ⟨8, 7, 3, "/p"⟩, ⟨20, 19, 5, "/p"⟩] 9).toOption = some ⟨8, 7, 3, "/p"⟩ := by
  decide +kernel

/-- the state right after `tracker.setPath(ch, path)` at the start of a block, on any earlier table `idx0` whose
    positions lie below the block -/
def blockStart (idx0 : Index) (p0 : Nat) (path : String) : St :=
  { tr := { line := 1, offset := 0, position := p0 + 1, path := path },
    idx := idx0 ++ [{ position := p0 + 1, offset := 0, line := 1, path := path }] }

theorem blockStart_inv (idx0 : Index) (p0 : Nat) (path : String) (hm : Monotone idx0)
    (hlt : ∀ l, idx0.getLast? = some l → l.position ≤ p0 + 1) : Inv p0 path [] (blockStart idx0 p0 path) := by
  refine ⟨rfl, rfl, rfl, ?_, ⟨_, List.getLast?_concat .., rfl, rfl, rfl⟩⟩
  cases h : idx0.getLast? with
  | none => rw [List.getLast?_eq_none_iff.mp h]; trivial
  | some l => exact Monotone.append_one _ hm h (hlt l h)

/-- **C06_linecol (lexeme level)**: whatever sequence of honest lexemes the scanner produces for a block, in the table
    of the whole run every settled position — `u` a newline-free prefix of the lexeme `lx` that follows the lexemes
    `a` — resolves, through the real binary search, to the block's path, the reference line `1 + #newlines before`
    and the reference column `#characters after the last newline`.  Nothing throws below 2^32. -/
theorem C06_linecol_lexemes (idx0 : Index) (p0 : Nat) (path : String) (hm : Monotone idx0)
    (hlt : ∀ l, idx0.getLast? = some l → l.position ≤ p0 + 1)
    (ls : List Lexeme) (hon : ∀ lx ∈ ls, Honest lx) (hfit : p0 + 1 + (flat ls).length < W)
    (a : List Lexeme) (lx : Lexeme) (b : List Lexeme) (u v : List Char)
    (hsplit : ls = a ++ lx :: b) (hchars : lx.chars = u ++ v) (hu : noNl u) :
    ∃ s', runLexemes (blockStart idx0 p0 path) ls = .ok s' ∧
      resolve s'.idx (p0 + 1 + (flat a).length + u.length) =
        .ok { path := path, line := refLine (flat a ++ u), col := refCol (flat a ++ u) } := by
  subst hsplit
  simpa using run_resolve (blockStart_inv idx0 p0 path hm hlt) a lx b hon (by simpa using hfit) hchars hu

/-- no string literal of the segmentation contains a newline -/
def NoNewlineInStringLiteral (ls : List Lexeme) : Prop := ∀ lx ∈ ls, lx.rule.pat = .str → noNl lx.chars

/-- **C06_linecol**: for *every* block text whose string literals contain no newline, scanned with the rule table
    regenerated from today's lexer.l: the scanner consumes the whole text, nothing throws below 2^32, and for every
    split `text = pre ++ post` at a settled position (`pre` ends at a lexeme boundary followed by a newline-free part
    of the next lexeme) a diagnostic end at absolute position `p0 + 1 + |pre|` is reported at
    (path, 1 + newlines in `pre`, characters after the last newline of `pre`). -/
theorem C06_linecol (idx0 : Index) (p0 : Nat) (path : String) (hm : Monotone idx0)
    (hlt : ∀ l, idx0.getLast? = some l → l.position ≤ p0 + 1) (text : List Char)
    (hstr : NoNewlineInStringLiteral (lexAll LexRulesGen.rules .initial text).1)
    (hfit : p0 + 1 + text.length < W)
    (a : List Lexeme) (lx : Lexeme) (b : List Lexeme) (u v : List Char)
    (hsplit : (lexAll LexRulesGen.rules .initial text).1 = a ++ lx :: b) (hchars : lx.chars = u ++ v) (hu : noNl u) :
    flat (lexAll LexRulesGen.rules .initial text).1 = text ∧
    ∃ s', runLexemes (blockStart idx0 p0 path) (lexAll LexRulesGen.rules .initial text).1 = .ok s' ∧
      resolve s'.idx (p0 + 1 + (flat a ++ u).length) =
        .ok { path := path, line := refLine (flat a ++ u), col := refCol (flat a ++ u) } := by
  have hflat := lexAll_complete tie_rules_covering .initial text
  obtain ⟨s', hrun, hres⟩ := C06_linecol_lexemes idx0 p0 path hm hlt _
    (fun lx' hlx' => lexAll_honest tie_rules_faithful .initial text lx' hlx' (hstr lx' hlx'))
    (by rw [hflat]; exact hfit) a lx b u v hsplit hchars hu
  exact ⟨hflat, s', hrun, by rw [List.length_append, ← Nat.add_assoc]; exact hres⟩

/-- the text of the example below: a comment over two lines, a continuation, CRLF, a blank line -/
def exampleText : List Char := "/* c\n */ x \\\n\r\n\n @".toList

/-- a block with comments, CRLF, a continuation and blank lines satisfies the hypotheses (they are not vacuous):
    `@` is the last lexeme, the reference puts it at line 5, column 1 -/
example : (lexAll LexRulesGen.rules .initial exampleText).1 =
      (lexAll LexRulesGen.rules .initial exampleText).1.dropLast ++
        ((lexAll LexRulesGen.rules .initial exampleText).1.getLast?.getD default) :: [] ∧
    ((lexAll LexRulesGen.rules .initial exampleText).1.getLast?.getD default).chars = ['@'] ∧
    refLine (flat (lexAll LexRulesGen.rules .initial exampleText).1.dropLast) = 5 ∧
    refCol (flat (lexAll LexRulesGen.rules .initial exampleText).1.dropLast) = 1 ∧
    (∀ lx ∈ (lexAll LexRulesGen.rules .initial exampleText).1, lx.rule.pat ≠ .str) := by
  decide +kernel

/-- what a resolution prints, as plain data -/
def locTriple (r : Except Err Loc) : Option (String × Nat × Nat) :=
  match r with
  | .ok l => some (l.path, l.line, l.col)
  | .error _ => none

/-- resolution of the character at offset `k` of a block text scanned from a fresh tracker (position 0) -/
def resolveInBlock (text : List Char) (k : Nat) : Option (String × Nat × Nat) :=
  match runLexemes (blockStart [] 0 "/p") (lexAll LexRulesGen.rules .initial text).1 with
  | .ok s => locTriple (resolve s.idx (1 + k))
  | .error _ => none

/-- **exception shape `string-newline`** (DESIGN F-C06-1): the string rule `\"[^\"]+\"` of today's lexer.l swallows
    newlines without telling the tracker, so a token after a two-line string literal is reported one line early and
    with a column that lies outside its line.  Text `"a⏎b" @`: the reference puts `@` (offset 6) at line 2, column 3;
    the model of the code resolves it to line 1, column 6. -/
theorem C06_string_newline_witness :
    resolveInBlock "\"a\nb\" @".toList 6 = some ("/p", 1, 6) ∧
      (refLine "\"a\nb\" ".toList, refCol "\"a\nb\" ".toList) = (2, 3) := by
  decide +kernel

/-- **C06_xpath**: when the reader stands on the node at address `i :: addr` the XPath string printed by `Path::str`
    selects, in the same document, exactly that node — for every document and node whose path levels are `LevelOK`
    (the row of the `switch` exists and prints the element's real name; an indexed row counts its own tag, which among the
    siblings is the tag of exactly the elements of that name; an un-indexed step is unambiguous among the siblings). -/
theorem C06_xpath (table : List TagRow) (nameOf : String → String) (roots : List XNode) (i : Nat) (addr : Addr)
    (h : PathOK table nameOf roots (i :: addr)) :
    ∃ ss, (Path.run Path.init (prefixTo roots (i :: addr))).steps table none = some ss ∧
      select nameOf roots ss = [i :: addr] := by
  obtain ⟨ss, hss, hsel⟩ := select_specLevels table nameOf (i :: addr) roots h
  refine ⟨ss, ?_, hsel⟩
  rw [Path.steps, Path.init, run_prefixTo (i :: addr) roots []]
  exact hss

/-- the hypothesis `PathOK` is satisfiable: the second template of `<nta><declaration/><template/><template/></nta>`
    with today's table and `tag_map` -/
example : PathOK PathTableGen.table PathCheck.elementName
    [.elem "NTA" [.elem "DECLARATION" [], .elem "TEMPLATE" [], .elem "TEMPLATE" []]] [0, 2] := by
  refine ⟨.elem "NTA" [.elem "DECLARATION" [], .elem "TEMPLATE" [], .elem "TEMPLATE" []],
    ⟨rfl, ⟨"NTA", "nta", none⟩, by decide, by decide, by decide⟩,
    .elem "TEMPLATE" [], ⟨rfl, ⟨"TEMPLATE", "template", some "TEMPLATE"⟩, by decide, by decide, by decide⟩, trivial⟩

/-- every row of `Path::str` outside the computed exception set `PathCheck.badRows` prints the element's own name and
    counts its own tag — the table-level part of `LevelOK` (the rest is a property of the document) -/
theorem C06_xpath_rows : ∀ r ∈ PathTableGen.table, r ∉ PathCheck.badRows →
    r.name = PathCheck.elementName r.tag ∧ (r.counted = none ∨ r.counted = some r.tag) := by
  intro r hr hbad
  have : PathCheck.rowOK r = true := by simpa [PathCheck.badRows, hr] using hbad
  simpa [PathCheck.rowOK] using this

/-- the second template's third location's second label: what the model prints with today's table -/
example : ((Path.run Path.init (prefixTo
      [.elem "NTA" [.elem "DECLARATION" [], .elem "TEMPLATE" [], .elem "TEMPLATE" [.elem "NAME" [], .elem "LOCATION" [],
        .elem "LOCATION" [], .elem "LOCATION" [.elem "NAME" [], .elem "LABEL" [], .elem "LABEL" []]], .elem "SYSTEM" []]]
      [0, 2, 3, 2])).steps PathTableGen.table none).map renderSteps = some "/nta/template[2]/location[3]/label[2]" := by
  decide +kernel

/-- **exception shape `xpath-name`**: a step whose printed name is not the name of any child selects nothing, so a path
    through a row that prints a wrong element name (as `Path::str` once printed `lscTemplate` for `<lsc>`) selects no
    element at all. -/
theorem C06_xpath_wrong_name_selects_nothing (nameOf : String → String) (kids : List XNode) (s : Step) (rest : List Step)
    (h : ∀ x ∈ kids, nameOf x.tag ≠ s.name) : select nameOf kids (s :: rest) = [] := by
  simp only [select, selectStep, selectStep_range, idxs_eq_nil fun x hx => beq_eq_false_iff_ne.mpr (h x hx)]
  cases s.index with
  | none => rfl
  | some i => by_cases hi : i = 0 <;> simp [hi]

/-- all ranges lie in `[lo, hi]`, each has start ≤ stop, and they follow one another -/
def Chain (lo hi : Nat) : List Range → Prop
  | [] => lo ≤ hi
  | r :: rest => lo ≤ r.start ∧ r.start ≤ r.stop ∧ r.stop ≤ hi ∧ Chain r.stop hi rest

/-- **C06_ranges (tokens)**: the `yylloc` values of the lexemes of a block form a chain inside the block's range. -/
theorem C06_ranges_tokens : ∀ (ls : List Lexeme) (pos : Nat), Chain pos (pos + (flat ls).length) (tokenRanges pos ls) := by
  intro ls
  induction ls with
  | nil => exact fun pos => Nat.le_refl pos
  | cons lx rest ih =>
    intro pos
    rw [flat_cons, List.length_append, ← Nat.add_assoc]
    exact ⟨Nat.le_refl _, Nat.le_add_right _ _, Nat.le_add_right _ _, ih _⟩

theorem Chain.bounds {lo hi : Nat} : ∀ {l : List Range}, Chain lo hi l → lo ≤ hi := by
  intro l h
  cases l with
  | nil => exact h
  | cons r rest => exact Nat.le_trans h.1 (Nat.le_trans h.2.1 h.2.2.1)

theorem Chain.mem {lo hi : Nat} {l : List Range} (h : Chain lo hi l) {r : Range} (hr : r ∈ l) :
    lo ≤ r.start ∧ r.start ≤ r.stop ∧ r.stop ≤ hi := by
  induction l generalizing lo with
  | nil => cases hr
  | cons r' rest ih =>
    rcases List.mem_cons.mp hr with rfl | hr
    · exact ⟨h.1, h.2.1, h.2.2.1⟩
    · have := ih h.2.2.2 hr
      exact ⟨Nat.le_trans (Nat.le_trans h.1 h.2.1) this.1, this.2⟩

/-- **C06_ranges_partial (productions)**: YYLLOC_DEFAULT applied to a chain of right-hand-side locations that follows a
    location `prev` inside the block yields a location inside the block with start ≤ stop; hence every
    `CALL(@i, @j, …)` with `i ≤ j` sets a range inside the block with start ≤ end.
    *Partial*: the location below the first symbol of a parse (the start token `T_NEW_…`) is whatever `yylloc` held
    before the call (the previous parse's last token, or INT_MAX in a fresh process) — an empty production reduced
    directly above the start token therefore gets that stale location.  The full statement
    "every position assigned while parsing a block lies in the block" needs `prev` in range, which is what is
    assumed here; the harness observes every `set_position` call and reports ranges outside the block. -/
theorem C06_ranges_partial (lo hi : Nat) (prev : Range) (rhs : List Range)
    (hprev : lo ≤ prev.stop ∧ prev.stop ≤ hi) (hchain : Chain prev.stop hi rhs) :
    lo ≤ (yyllocDefault prev rhs).start ∧ (yyllocDefault prev rhs).start ≤ (yyllocDefault prev rhs).stop ∧
      (yyllocDefault prev rhs).stop ≤ hi := by
  cases rhs with
  | nil => exact ⟨hprev.1, Nat.le_refl _, hprev.2⟩
  | cons r rest =>
    obtain ⟨h1, h2, h3, h4⟩ := hchain
    refine ⟨Nat.le_trans hprev.1 h1, ?_⟩
    rw [yyllocDefault, List.getLast?_cons, Option.getD_some]
    -- the last location is the first one, or one of the later ones, which start at or after the end of the first
    cases hl : rest.getLast? with
    | none => exact ⟨h2, h3⟩
    | some m =>
      have := h4.mem (List.mem_of_getLast? hl)
      exact ⟨Nat.le_trans h2 (Nat.le_trans this.1 this.2.1), this.2.2⟩

example : Chain 4 20 [⟨5, 8⟩, ⟨9, 9⟩, ⟨12, 20⟩] ∧ yyllocDefault ⟨3, 4⟩ [⟨5, 8⟩, ⟨9, 9⟩, ⟨12, 20⟩] = ⟨5, 20⟩ :=
  ⟨by simp [Chain], by simp [yyllocDefault]⟩

/-- **C06_token_range**: for every token `lx` without a newline (an identifier, say — the range `CALL(@1, @1,
    expr_identifier(…))` gives to an unknown-identifier error is the token's own `yylloc`): both ends resolve to the
    reference line of the token, the start to the reference column `c` and the end to `c + length`. -/
theorem C06_token_range (idx0 : Index) (p0 : Nat) (path : String) (hm : Monotone idx0)
    (hlt : ∀ l, idx0.getLast? = some l → l.position ≤ p0 + 1)
    (ls : List Lexeme) (hon : ∀ lx ∈ ls, Honest lx) (hfit : p0 + 1 + (flat ls).length < W)
    (a : List Lexeme) (lx : Lexeme) (b : List Lexeme) (hsplit : ls = a ++ lx :: b) (hno : noNl lx.chars) :
    ∃ s', runLexemes (blockStart idx0 p0 path) ls = .ok s' ∧
      resolve s'.idx (p0 + 1 + (flat a).length) =
        .ok { path := path, line := refLine (flat a), col := refCol (flat a) } ∧
      resolve s'.idx (p0 + 1 + (flat a).length + lx.chars.length) =
        .ok { path := path, line := refLine (flat a), col := refCol (flat a) + lx.chars.length } := by
  obtain ⟨s1, hrun1, hres1⟩ := C06_linecol_lexemes idx0 p0 path hm hlt ls hon hfit a lx b [] lx.chars hsplit rfl noNl_nil
  obtain ⟨s2, hrun2, hres2⟩ := C06_linecol_lexemes idx0 p0 path hm hlt ls hon hfit a lx b lx.chars [] hsplit
    (List.append_nil _).symm hno
  cases hrun1.symm.trans hrun2
  refine ⟨s1, hrun1, by simpa using hres1, ?_⟩
  rw [hres2]
  simp only [refLine, refCol, countNl_append, countNl_eq_zero.mpr hno, colOf_append_noNl _ _ hno, Nat.add_zero]

end UtapModel.C06
