/-
C12 — no accepted model writes to a constant.

Model: `Model/Const.lean` (types, `is_mutable`, `get_sub`, the three lvalue predicates, the write / argument / binder
rules); its kind lists and branch shapes are `Gen/ConstGen.lean`, regenerated from the current source on every run.
Specification side (`constRooted`, `mutTarget`, `Ty.constDeclared`, `Ty.clean`, `writeKinds`): hand-written over kind
lists of its own; the generated tables enter it only where `constRooted` and `mutTarget` ask for the static type of a
component (`typeOf`, i.e. `get_sub` / `get_sub(i)`) and whether it is a process (`Ty.is`).  All theorems hold for
lvalue paths of any length and types of any depth (structural induction).

Exception set (DESIGN §2.4): the converse of `C12_accept` for targets that are not const-rooted does not hold in
general: `isModifiableLValue` judges the *whole* type of the root identifier, so a record variable with one const array
member has no writable member at all (`C12_exception_sibling_const_witness`).  `C12_accept` is therefore stated for
roots whose whole type is free of const, and the remaining shape is reported by the check as a finding.
-/
import UtapModel.Lemmas.Const
import UtapModel.Lemmas.ConstDecl

namespace UtapModel.Const
open UtapModel UtapModel.ConstGen

/-! ### types: constness survives every wrapper and every selection -/

/-- A type declared const (CONSTANT met below qualifiers, references, typedef labels, ranges and array layers of any
    depth) is never mutable. -/
theorem C12_constDeclared_not_mutable (t : Ty) (h : t.constDeclared = true) : t.isMutable = false :=
  constDeclared_not_mutable t h

example : (Ty.mk .kARRAY (.cons "" (Ty.mk .kLABEL (.cons "ci" (Ty.mk .kCONSTANT (.cons "" (Ty.prim .kINT) .nil)) .nil))
    (.cons "" (Ty.prim .kINT) .nil))).constDeclared = true := by decide

/-- Core lemma (type.cpp `get_sub()`, prefix re-wrapping): a type whose element type is not mutable is not mutable
    itself — the contrapositive says that a mutable type has only mutable elements.  `isModifiableLValue` judges the type
    of the root identifier alone, and this carries the constness of a component up to it. -/
theorem C12_getSub_keeps_const (t : Ty) (h : t.getSub.isMutable = false) : t.isMutable = false :=
  Bool.eq_false_iff.2 (mt (mutable_getSub t) (Bool.eq_false_iff.1 h))

/-- Core lemma (type.cpp `get_sub(i)`): the same for field selection on a record type. -/
theorem C12_getSubField_keeps_const (t : Ty) (i : Nat) (hs : t.recordShape = true)
    (h : (t.getSubField i).isMutable = false) : t.isMutable = false :=
  Bool.eq_false_iff.2 (mt (mutable_getSubField t i hs) (Bool.eq_false_iff.1 h))

/-- For a path `x.f[i].g…` of any length: if its static type is not mutable, the checker does not call it a modifiable
    lvalue (so a component that is const by its own type, e.g. an element of a const array member, is never modifiable). -/
theorem C12_path_rejected : ∀ e : Ex, purePath e = true → (typeOf e).isMutable = false → isModLv e = false :=
  purePath_ind (fun _ _ h => h)
    (fun _ i hs ih h => by rw [isModLv_dot, ih (C12_getSubField_keeps_const _ i hs h), Bool.and_false])
    (fun _ _ ih h => ih (C12_getSub_keeps_const _ h))

/-- Core lemma of DESIGN §4 (type.cpp `get_sub` / `get_sub(i)`, prefix re-wrapping): along a path `x.f[i].g…` of any length
    rooted at an identifier declared const, the static type of *every* component is again declared const — the CONSTANT
    prefix survives each indexing and each field selection, through typedef labels, references and qualifiers — and is
    therefore never mutable. -/
theorem C12_static_type_const : ∀ e : Ex, purePath e = true → rootConst e = true → (typeOf e).constDeclared = true :=
  purePath_ind (fun _ _ h => h)
    (fun _ i hs ih h => constDeclared_getSubField _ i hs (ih h))
    (fun _ _ ih h => constDeclared_getSub _ (ih h))

theorem C12_static_type_not_mutable (e : Ex) (hp : purePath e = true) (h : rootConst e = true) :
    (typeOf e).isMutable = false :=
  constDeclared_not_mutable _ (C12_static_type_const e hp h)

/-! ### C12, rejection: a const-rooted lvalue is never a modifiable lvalue -/

/-- **C12_reject.** Whatever is — or indexes into, or selects a field of, to any depth — a const variable, const
    parameter, binder, or const component, also through `?:` (either branch) and `,`, is not a modifiable lvalue. -/
theorem C12_reject : ∀ e : Ex, constRooted e = true → isModLv e = false
  | .ident _ ty, h => constDeclared_not_mutable ty h
  | .dot e i, h => by
    rw [constRooted, Bool.or_eq_true, Bool.and_eq_true] at h
    rcases h with h | ⟨hp, hc⟩
    · rw [isModLv_dot, C12_reject e h, Bool.and_false]
    · exact C12_path_rejected _ hp (constDeclared_not_mutable _ hc)
  | .index e c, h => by
    rw [constRooted, Bool.or_eq_true, Bool.and_eq_true] at h
    rcases h with h | ⟨hp, hc⟩
    · exact C12_reject e h
    · exact C12_path_rejected _ hp (constDeclared_not_mutable _ hc)
  | .iif eq ty c a b, h => by
    rw [constRooted, Bool.or_eq_true] at h
    show (isModLv a && isModLv b && eq) = false
    rcases h with h | h
    · rw [C12_reject a h]; rfl
    · rw [C12_reject b h, Bool.and_false]; rfl
  | .binary k a b, h => by
    rw [constRooted, Bool.and_eq_true] at h
    rw [eq_of_beq h.1]
    exact C12_reject b h.2
  | .unary .., h | .opaque .., h => nomatch h

-- the hypothesis is satisfiable by deep, non-trivial targets:  cs.b[1] for `const S cs` (S = struct {int a; int b[2];})
example : constRooted (.index (.dot (.ident "cs" (Ty.mk .kCONSTANT (.cons "" (Ty.mk .kLABEL (.cons "S" (Ty.mk .kRECORD
    (.cons "a" (Ty.prim .kINT) (.cons "b" (Ty.mk .kARRAY (.cons "" (Ty.prim .kINT) (.cons "" (Ty.prim .kINT) .nil))) .nil)))
    .nil)) .nil))) 1) true) = true := by decide

/-- Every write form (`=`, the ten `op=`, `++`/`--` pre and post) whose target is const-rooted is refused by its clause
    of `checkExpression`. -/
theorem C12_write_rejected (k : Kind) (lhs : Ex) (hk : isWriteKind k = true) (h : constRooted lhs = true) :
    writeRefused k lhs = true := by
  simp [writeRefused, writeGuard_writeKinds k hk, C12_reject lhs h]

example : isWriteKind .kASS_XOR = true ∧ isWriteKind .kPOST_DECREMENT = true := by decide

/-- Passing a const-rooted object for a non-const reference parameter of a function is refused by
    `isParameterCompatible` before any type comparison. -/
theorem C12_ref_argument_rejected (param : Ty) (arg : Ex) (href : param.is .kREF = true)
    (hnc : param.isConstant = false) (h : constRooted arg = true) : argRefused param arg = true := by
  simp [argRefused, paramRefuses, href, hnc, C12_reject arg h]

example : (Ty.mk .kREF (.cons "" (Ty.mk .kRANGE (.cons "" (Ty.prim .kINT) .nil)) .nil)).is .kREF = true ∧
    (Ty.mk .kREF (.cons "" (Ty.mk .kRANGE (.cons "" (Ty.prim .kINT) .nil)) .nil)).isConstant = false := by decide

/-- The same for an argument of a template instantiation (`visitInstance`), whatever the computability of the argument. -/
theorem C12_inst_argument_rejected (param : Ty) (arg : Ex) (computable : Bool) (href : param.is .kREF = true)
    (hnc : param.isConstant = false) (h : constRooted arg = true) : instArgRefused param arg computable = true := by
  simp [instArgRefused, instThenChecksParam, C12_ref_argument_rejected param arg href hnc h]

/-- Binders (forall / exists / sum / for-iteration / select): whatever type the binder is declared over, the symbol's
    type is not mutable, so the binder is not a modifiable lvalue. -/
theorem C12_binder_rejected (site : BinderSite) (declared : Ty) (name : String) :
    isModLv (.ident name (binderType site declared)) = false := by
  show (binderType site declared).isMutable = false
  rw [binderType, binderForcedConst_all site, if_pos rfl]
  split
  next hc => exact isCONSTANT_not_mutable _ hc
  next => rfl

/-- … and neither is anything indexed by or selected from something rooted at a binder-typed identifier that is
    declared const (binders over a plain type: the CONSTANT prefix is outermost). -/
theorem C12_binder_constRooted (site : BinderSite) (declared : Ty) (name : String)
    (h : declared.is .kCONSTANT = false) : constRooted (.ident name (binderType site declared)) = true := by
  simp [constRooted, binderType, binderForcedConst_all site, h, Ty.createPrefix, Ty.constDeclared]

/-- An expression all of whose write sites pass the lvalue rule (what `checkExpression` accepting it implies) contains
    no write, at any nesting depth, whose target is const-rooted — e.g. `(c = 1) = 2`, `(++c)++`, `x = (c += 1)`. -/
theorem C12_no_const_write_site : ∀ e : Ex, sitesOk e = true → ∀ s ∈ writeSites e, constRooted s.2 = false := by
  intro e h s hs
  rw [sitesOk_eq_all, List.all_eq_true] at h
  have hs := Bool.and_eq_true_iff.1 (h s hs)
  refine Bool.eq_false_iff.2 fun hc => ?_
  rw [C12_write_rejected _ _ hs.1 hc] at hs
  exact nomatch hs.2

/-- Chains of assignment operators group to the right: `m = c += 1` is `m = (c += 1)`, `m -= c <<= 1` is `m -= (c <<= 1)`.
    The inner write is a write site of the whole expression, so the chain is refused as soon as `c` is const-rooted --
    whatever the outer operator `k1`, its target `m` and the operand `e` are. -/
theorem C12_chain_rejected (k1 k2 : Kind) (m x e : Ex) (hk : isWriteKind k2 = true) (h : constRooted x = true) :
    sitesOk (.binary k1 m (.binary k2 x e)) = false := by
  simp [sitesOk, hk, C12_write_rejected k2 x hk h]

/-! ### C12, acceptance: the same shapes on mutable objects pass the lvalue rule -/

/-- A type with no const (and no function / process) part anywhere is mutable. -/
theorem C12_clean_mutable (t : Ty) (h : t.clean = true) : t.isMutable = true := noneOf_mutable t h

/-- **C12_accept.** Identifier of const-free type, any chain of fields / elements of it, inline-if over two such
    (of equivalent type), right operand of a comma, result of an assignment or prefix increment: modifiable lvalue. -/
theorem C12_accept : ∀ e : Ex, mutTarget e = true → isModLv e = true
  | .ident _ ty, h => noneOf_mutable ty h
  | .dot e i, h => by
    rw [mutTarget, Bool.and_eq_true] at h
    rw [isModLv_dot, C12_accept e h.1, h.2]; rfl
  | .index e _, h => C12_accept e h
  | .iif eq ty c a b, h => by
    rw [mutTarget, Bool.and_eq_true, Bool.and_eq_true] at h
    show (isModLv a && isModLv b && eq) = true
    rw [C12_accept a h.1.2, C12_accept b h.2, h.1.1]; rfl
  | .binary k a b, h => by
    rw [mutTarget] at h
    split at h
    next hk => rw [eq_of_beq hk]; exact C12_accept b h
    next => rw [isModLv, lvPred, modLvClause_assignKinds k (List.contains_iff_mem.1 h)]; rfl
  | .unary k e, h => by
    rw [mutTarget, Bool.or_eq_true, beq_iff_eq, beq_iff_eq] at h
    rcases h with rfl | rfl <;> rfl
  | .opaque .., h => nomatch h

-- msa[1].b[0] for `S msa[2]`
example : mutTarget (.index (.dot (.index (.ident "msa" (Ty.mk .kARRAY (.cons "" (Ty.mk .kLABEL (.cons "S" (Ty.mk .kRECORD
    (.cons "a" (Ty.prim .kINT) (.cons "b" (Ty.mk .kARRAY (.cons "" (Ty.prim .kINT) (.cons "" (Ty.prim .kINT) .nil))) .nil)))
    .nil)) (.cons "" (Ty.prim .kINT) .nil)))) true) 1) true) = true := by decide

/-- Every write form on such a target passes the lvalue rule of its clause. -/
theorem C12_write_accepted (k : Kind) (lhs : Ex) (h : mutTarget lhs = true) : writeRefused k lhs = false := by
  simp [writeRefused, C12_accept lhs h]

/-- … and such a target passes the reference rule of `isParameterCompatible` for every parameter type. -/
theorem C12_ref_argument_accepted (param : Ty) (arg : Ex) (h : mutTarget arg = true) : argRefused param arg = false := by
  simp [argRefused, paramRefuses, C12_accept arg h]

/-- A modifiable lvalue is an lvalue (`isModifiableLValue ⇒ isLValue`), for every expression. -/
theorem C12_modifiable_is_lvalue : ∀ e : Ex, isModLv e = true → isLv e = true := lvPred_mono modLv_le_lv

/-! ### from declaration syntax to the declared type (the builder callbacks) -/

/-- **Source-level constness reaches the type.**  A declaration on which `const` is written — directly, on a typedef it
    names (to any depth), or on the element type below any number of array declarators, and also when the parameter is a
    reference — is given by the builder a type that is declared const; so (with `C12_reject`) the declared object, every
    element and every field of it are not modifiable lvalues. -/
theorem C12_decl_const : ∀ d : Decl, d.isConst = true → d.elab.constDeclared = true
  | .base b p, h => by
    rw [eq_of_beq (show (p == Prefix.const) = true from h)]
    cases b <;> simp only [Decl.elab, elabBase, viaCallback_eq]
    case scalar l => exact constDeclared_createLabel l (constDeclared_applyPrefix_const _)
    all_goals exact constDeclared_applyPrefix_const _
  | .named p n body, h => by
    rw [Decl.elab, viaCallback_eq]
    rcases Bool.or_eq_true_iff.1 h with h | h
    · rw [eq_of_beq h]; exact constDeclared_applyPrefix_const _
    · exact constDeclared_applyPrefix p (constDeclared_createLabel n (C12_decl_const body h))
  | .struct p fs, h => by
    rw [eq_of_beq (show (p == Prefix.const) = true from h), Decl.elab, viaCallback_eq]
    exact constDeclared_applyPrefix_const _
  | .array e, h => constDeclared_createPrefix (k := .kARRAY) rfl (C12_decl_const e h)
  | .ref d, h => constDeclared_wrapKinds _ refParamKinds_wrappers (C12_decl_const d h)

-- `typedef const int ci;  void f(ci &p[3][2])`-like: reference to a two-dimensional array of a typedef'd const
example : (Decl.ref (.array (.array (.named .none "ci" (.base .int .const))))).isConst = true := by decide

/-- An identifier declared that way is const-rooted, hence (C12_reject) never a modifiable lvalue, and neither is any
    path into it. -/
theorem C12_decl_const_rejected (d : Decl) (x : String) (h : d.isConst = true) :
    constRooted (.ident x d.elab) = true ∧ isModLv (.ident x d.elab) = false := by
  have hc : constRooted (.ident x d.elab) = true := C12_decl_const d h
  exact ⟨hc, C12_reject _ hc⟩

mutual
  /-- **…and its absence too.**  A declaration in which `const` occurs nowhere (nor in the typedefs it names, nor in its
      fields) gets a type without any const part: every path into the declared object is a modifiable lvalue
      (`C12_accept`). -/
  theorem C12_decl_constFree : ∀ d : Decl, d.constFree = true → d.elab.clean = true
    | .base b p, h => by
      have hp : p ≠ .const := bne_iff_ne.1 h
      cases b <;> simp only [Decl.elab, elabBase, viaCallback_eq]
      case scalar l => exact clean_createLabel l (clean_applyPrefix hp (clean_createRange rfl))
      case int => exact clean_applyPrefix hp (by split <;> rfl)
      case boundedInt => exact clean_applyPrefix hp clean_rangeInt
      all_goals exact clean_applyPrefix hp rfl
    | .named p n body, h => by
      rw [Decl.constFree, Bool.and_eq_true, bne_iff_ne] at h
      rw [Decl.elab, viaCallback_eq]
      exact clean_applyPrefix h.1 (clean_createLabel n (C12_decl_constFree body h.2))
    | .struct p fs, h => by
      rw [Decl.constFree, Bool.and_eq_true, bne_iff_ne] at h
      rw [Decl.elab, viaCallback_eq]
      exact clean_applyPrefix h.1 (clean_mk rfl (C12_fields_constFree fs h.2))
    | .array e, h => clean_mk rfl (Bool.and_eq_true_iff.2 ⟨C12_decl_constFree e h, rfl⟩)
    | .ref d, h => clean_wrapKinds _ refParamKinds_clean (C12_decl_constFree d h)
  theorem C12_fields_constFree : ∀ fs : DeclFields, fs.constFree = true → fs.elab.noneOf nonMutableKinds = true
    | .nil, _ => rfl
    | .cons n d r, h => by
      rw [DeclFields.constFree, Bool.and_eq_true] at h
      exact Bool.and_eq_true_iff.2 ⟨C12_decl_constFree d h.1, C12_fields_constFree r h.2⟩
end

theorem C12_decl_constFree_accepted (d : Decl) (x : String) (h : d.constFree = true) :
    mutTarget (.ident x d.elab) = true ∧ isModLv (.ident x d.elab) = true := by
  have hm : mutTarget (.ident x d.elab) = true := C12_decl_constFree d h
  exact ⟨hm, C12_accept _ hm⟩

/-- Paths are lvalues whether const or not (a const-rooted path is refused for its constness, not for its shape) … -/
theorem C12_path_is_lvalue : ∀ e : Ex, purePath e = true → isLv e = true :=
  purePath_ind (fun _ _ => rfl) (fun _ _ _ ih => ih) (fun _ _ ih => ih)

/-- … and, with compile-time computable indices, unique references: -/
theorem C12_path_is_unique : ∀ e : Ex, purePath e = true → allCtc e = true → isUniq e = true :=
  purePath_ind (fun _ _ _ => rfl) (fun _ _ _ ih h => ih h)
    (fun _ _ ih h => by
      rw [allCtc, Bool.and_eq_true] at h
      exact Bool.and_eq_true_iff.2 ⟨ih h.2, h.1⟩)

/-- so a path into a const-free variable, with computable indices, passes both rules of `visitInstance` for a
    non-const reference parameter of a template. -/
theorem C12_inst_argument_accepted (param : Ty) (arg : Ex) (computable : Bool) (href : param.is .kREF = true)
    (hnc : param.isConstant = false) (hp : purePath arg = true) (hc : allCtc arg = true) (hm : mutTarget arg = true) :
    instArgRefused param arg computable = false := by
  simp [instArgRefused, instRefuses, href, hnc, C12_path_is_unique arg hp hc, C12_ref_argument_accepted param arg hm]

/-! ### the exception: a mutable member next to a const array member -/

/-- `struct { const int k[2]; int v; } kk;  kk.v = 1`:  `kk.v` is not const-rooted, yet it is not a modifiable lvalue. -/
def witnessSiblingConst : Ex :=
  .dot (.ident "kk" (Ty.mk .kLABEL (.cons "K" (Ty.mk .kRECORD
    (.cons "k" (Ty.mk .kARRAY (.cons "" (Ty.mk .kCONSTANT (.cons "" (Ty.prim .kINT) .nil)) (.cons "" (Ty.prim .kINT) .nil)))
    (.cons "v" (Ty.mk .kRANGE (.cons "" (Ty.prim .kINT) .nil)) .nil))) .nil))) 1

/-- why the shape existed up to /repo commit a145d08: `struct_field` refused a field only when `type.is(CONSTANT)`, and
    `is` does not look through ARRAY (since then it also asks `is_constant()`, which does) -/
theorem C12_exception_const_array_member_passes_struct_field :
    (Decl.array (.base .int .const)).isConst = true ∧ ((Decl.array (.base .int .const)).elab.is .kCONSTANT) = false := by decide

theorem C12_exception_sibling_const_witness :
    constRooted witnessSiblingConst = false ∧ (typeOf witnessSiblingConst).isMutable = true ∧
    isModLv witnessSiblingConst = false := by decide

end UtapModel.Const
