/-
C09 — accept/reject verdicts are invariant under meaning-preserving rewrites: PROPERTY THEOREMS
(models: Model/C09Lex, C09Render, C09Ops, C09Scope, C09Pratt; tables regenerated from /repo: Gen/C09Tables;
 helper lemmas: Lemmas/C09Lex, Lemmas/C09Pratt, Lemmas/C09Misc).

The verdict of libutap on a text is a function of (1) the token stream the lexer hands to the parser, (2) the callback
sequence the parser derives from it, (3) name resolution in the builder.  The four rewrite families are shown to leave
these unchanged (up to the renaming) on the models; the exception shapes where the unchanged code violates the property
are proved as negations on witnesses (`C09_witness_*`) and replayed on the real library by checks/c09.py.
-/
import UtapModel.Lemmas.C09Lex
import UtapModel.Lemmas.C09Pratt
import UtapModel.Lemmas.C09Misc
import UtapModel.Model.C09Ops
import UtapModel.Model.C09Scope
import UtapModel.Model.C09GenTbl
import UtapModel.Gen.C09Tables
namespace UtapModel.C09.Props
open UtapModel.C09

/-- the lexer configuration of the current source tree: generated rule table, keyword table, MAXLEN, syntax bits -/
def genCfg (mask : Nat) (isType : Nat → List Ch → Bool) : Cfg :=
  { rules := Gen.rules, kws := Gen.keywordTable, maxLen := Gen.maxLen, mask := mask,
    bitOld := Gen.bitOLD, bitProperty := Gen.bitPROPERTY, bitProb := Gen.bitPROB,
    tConst := Gen.T_CONST, tOldConst := Gen.T_OLDCONST, isType := isType, softLits := Gen.softLits,
    expectStops := Gen.expectStopsBeforeClose }

/-- `NEW | GUIDING`: the syntax of every text block of a model parsed with `newxta = true` -/
def maskNew : Nat := Gen.bitNEW ||| Gen.bitGUIDING

/-- `OLD | GUIDING`: the syntax of every text block of a model parsed with `newxta = false` (UPPAAL 3.x `.ta` files, XML read with
    `newxta = false`) -/
def maskOld : Nat := Gen.bitOLD ||| Gen.bitGUIDING

/-! ## 0. the generated tables satisfy what the general theorems assume -/

theorem C09_rules_wf : RulesWF Gen.rules = true := by decide +kernel
theorem C09_rules_ident_wf : IdentWF Gen.rules = true := by decide +kernel
theorem C09_maskNew_nonProperty (isType) : NonProperty (genCfg maskNew isType) := by
  show ((maskNew &&& Gen.bitPROPERTY != 0) = false)
  decide
/-- the trivia and renaming theorems (stated for every non-PROPERTY configuration) apply to the 3.x syntax as well -/
theorem C09_maskOld_nonProperty (isType) : NonProperty (genCfg maskOld isType) := by
  show ((maskOld &&& Gen.bitPROPERTY != 0) = false)
  decide

/-! ## 1. trivia -/

/-- **Trivia.**  Two texts made of the same lexemes (same texts, same rules), separated by ANY well-formed trivia
    (blank runs, newline runs, `//` comments, `/* */` comments, backslash-newline continuations; possibly none where
    the lexeme is `Closed` against its successor), have the same token stream.  Side conditions, precisely:
    `Renderable` = each lexeme alone is matched completely by its rule; each lexeme is `Closed` w.r.t. the ONE
    character following it (see `Closed`); each trivia item is maximal and well formed (`Triv.ok`: a comment body
    contains neither `*/` nor `EXPECT:`); the syntax is not PROPERTY (there a newline is a token). -/
theorem C09_trivia (cfg : Cfg) (hwf : RulesWF cfg.rules = true) (hnp : NonProperty cfg)
    (sep0 sep0' : List Triv) (items items' : List Item)
    (hsame : items.map (fun i => (i.w, i.r)) = items'.map (fun i => (i.w, i.r)))
    (h0 : sepOK sep0 (renderItems items) = true) (h : Renderable cfg items = true)
    (h0' : sepOK sep0' (renderItems items') = true) (h' : Renderable cfg items' = true) :
    lex cfg (sepText sep0 ++ renderItems items) = lex cfg (sepText sep0' ++ renderItems items') :=
  lex_trivia cfg hwf sep0 sep0' items items' hsame (.inl hnp) h0 h h0' h'

/-- **Trivia in any syntax, queries included** (in PROPERTY syntax a newline is a token, so it is no trivia there):
    the same statement without the `NonProperty` assumption for separators that contain no run of newlines. -/
theorem C09_trivia_query (cfg : Cfg) (hwf : RulesWF cfg.rules = true)
    (sep0 sep0' : List Triv) (items items' : List Item)
    (hsame : items.map (fun i => (i.w, i.r)) = items'.map (fun i => (i.w, i.r)))
    (hnl : noNewlines sep0 items = true) (hnl' : noNewlines sep0' items' = true)
    (h0 : sepOK sep0 (renderItems items) = true) (h : Renderable cfg items = true)
    (h0' : sepOK sep0' (renderItems items') = true) (h' : Renderable cfg items' = true) :
    lex cfg (sepText sep0 ++ renderItems items) = lex cfg (sepText sep0' ++ renderItems items') :=
  lex_trivia cfg hwf sep0 sep0' items items' hsame (.inr ⟨hnl, hnl'⟩) h0 h h0' h'

/-- satisfiable in PROPERTY syntax: the query `E<> sup>1` and `E<> /* c */ sup > 1` (where `sup` is the keyword token
    that `NonTypeId` re-admits as an identifier) -/
example :
    let cfg := genCfg Gen.bitPROPERTY (fun _ _ => false)
    let ef : Item := ⟨[69, 60, 62], .lit [69, 60, 62] Gen.T_EF, [.blanks 32 []]⟩
    let a : List Item := [ef, ⟨[115, 117, 112], .ident, []⟩, ⟨[62], .lit [62] Gen.T_GT, []⟩, ⟨[49], .num, []⟩]
    let b : List Item := [{ ef with sep := [.blanks 32 [], .block [32, 99, 32], .blanks 32 []] },
                          ⟨[115, 117, 112], .ident, [.blanks 32 []]⟩, ⟨[62], .lit [62] Gen.T_GT, [.blanks 32 []]⟩, ⟨[49], .num, []⟩]
    Renderable cfg a = true ∧ Renderable cfg b = true ∧ noNewlines [] b = true ∧
    lex cfg (renderItems b) = [.lit Gen.T_EF, .lit Gen.T_SUP, .lit Gen.T_GT, .nat 1] := by
  simp only [lex_eq_lexOn, Renderable, best_eq_bestOn]
  decide +kernel

/-- the same for the lexer of the current source tree (model syntax) -/
theorem C09_trivia_utap (isType : Nat → List Ch → Bool) (sep0 sep0' : List Triv) (items items' : List Item)
    (hsame : items.map (fun i => (i.w, i.r)) = items'.map (fun i => (i.w, i.r)))
    (h0 : sepOK sep0 (renderItems items) = true) (h : Renderable (genCfg maskNew isType) items = true)
    (h0' : sepOK sep0' (renderItems items') = true) (h' : Renderable (genCfg maskNew isType) items' = true) :
    lex (genCfg maskNew isType) (sepText sep0 ++ renderItems items) = lex (genCfg maskNew isType) (sepText sep0' ++ renderItems items') :=
  C09_trivia (genCfg maskNew isType) C09_rules_wf (C09_maskNew_nonProperty isType) sep0 sep0' items items' hsame h0 h h0' h'

/-- the hypotheses are satisfiable: `x=1` and ` x /* c */ = // k⏎ 1 ` are two renderings of the same three lexemes -/
example :
    let noTypes : Nat → List Ch → Bool := fun _ _ => false
    let x : List Ch := [120]; let eq : List Ch := [61]; let one : List Ch := [49]
    let rEq : Rule := .lit [61] Gen.T_ASSIGNMENT
    let a : List Item := [⟨x, .ident, []⟩, ⟨eq, rEq, []⟩, ⟨one, .num, []⟩]
    let b : List Item := [⟨x, .ident, [.blanks 32 [], .block [32, 99, 32], .blanks 32 []]⟩,
                          ⟨eq, rEq, [.blanks 32 [], .line [32, 107], .newlines [], .blanks 32 []]⟩, ⟨one, .num, [.blanks 32 []]⟩]
    Renderable (genCfg maskNew noTypes) a = true ∧ Renderable (genCfg maskNew noTypes) b = true ∧
    sepOK [.blanks 32 []] (renderItems b) = true ∧
    lex (genCfg maskNew noTypes) (renderItems a) = [.id [120], .lit Gen.T_ASSIGNMENT, .nat 1] := by
  simp only [lex_eq_lexOn, Renderable, best_eq_bestOn]
  decide +kernel

/-! ### exception shape: a comment containing `EXPECT:` -/

/-- `/* EXPECT:k*/` violates `bodyOK` … -/
theorem C09_expect_not_bodyOK : bodyOK [32, 69, 88, 80, 69, 67, 84, 58, 107] = false := by decide

def notExpect : Tok → Bool
  | .expect _ => false
  | _ => true

/-- … and the negation of the property on the witness: replacing the comment text `note` by `EXPECT:k` (no blank before
    the closing `*/`) changes the token stream — the rule `"EXPECT:"[^\t \n]*` of the <comment> state swallows the `*/`.
    (`.expect` is the `handle_expect` callback, not a token.)  Stated against the generated flag: the token streams agree
    exactly when the source tree carries the repaired rule that stops before `*/`. -/
theorem C09_witness_expect :
    let cfg := genCfg maskNew (fun _ _ => false)
    -- "/*note*/ y"  vs  "/*EXPECT:k*/ y"
    lex cfg [47, 42, 110, 111, 116, 101, 42, 47, 32, 121] = [.id [121]] ∧
    (decide ((lex cfg [47, 42, 69, 88, 80, 69, 67, 84, 58, 107, 42, 47, 32, 121]).filter notExpect = [.id [121]]))
      = Gen.expectStopsBeforeClose := by
  simp only [lex_eq_lexOn]
  decide +kernel

/-! ## 2. renaming -/

/-- **Renaming, lexer half.**  Replace every user-chosen name `w` (a lexeme of the identifier rule that is no keyword
    under the current syntax) by `ρ w`, and let the symbol table answer `is_type` for `ρ w` as it answered for `w`.
    (`hsoft`: no name of a repaired one-letter literal rule — `softLits`, empty on the unrepaired tree — is a type.)
    If the renamed text is still `Renderable` (each `ρ w` is matched by the identifier rule — see `C09_rename_lexeme`
    for when that holds — and the adjacency conditions still hold), no `ρ w` is a keyword and all names are shorter
    than MAXLEN, then the token stream of the renamed text is the renamed token stream. -/
theorem C09_rename_lex (cfg : Cfg) (hwf : RulesWF cfg.rules = true) (hnp : NonProperty cfg)
    (isType' : Nat → List Ch → Bool) (ρ : List Ch → List Ch) (sep0 : List Triv) (items : List Item)
    (htype : ∀ n w, isType' n (ρ w) = cfg.isType n w)
    (hsoft : ∀ n w, w ∈ cfg.softLits → cfg.isType n w = false ∧ isType' n w = false)
    (hρ : ∀ it ∈ items, isUserId cfg it = true →
        kwTok cfg (ρ it.w) = none ∧ (ρ it.w).length < cfg.maxLen ∧ it.w.length < cfg.maxLen)
    (h0 : sepOK sep0 (renderItems items) = true) (h : Renderable cfg items = true)
    (h0' : sepOK sep0 (renderItems (renItems cfg ρ items)) = true)
    (h' : Renderable { cfg with isType := isType' } (renItems cfg ρ items) = true) :
    lex { cfg with isType := isType' } (sepText sep0 ++ renderItems (renItems cfg ρ items)) =
      (lex cfg (sepText sep0 ++ renderItems items)).map (renTok ρ) :=
  lex_rename cfg hwf isType' ρ sep0 items htype hsoft hρ (.inl hnp) h0 h h0' h'

/-- the same in any syntax (queries included) for texts whose separators contain no run of newlines
    (`hnl'` is redundant: renaming keeps the separators, `noNewlines_renItems`) -/
theorem C09_rename_lex_query (cfg : Cfg) (hwf : RulesWF cfg.rules = true)
    (isType' : Nat → List Ch → Bool) (ρ : List Ch → List Ch) (sep0 : List Triv) (items : List Item)
    (htype : ∀ n w, isType' n (ρ w) = cfg.isType n w)
    (hsoft : ∀ n w, w ∈ cfg.softLits → cfg.isType n w = false ∧ isType' n w = false)
    (hρ : ∀ it ∈ items, isUserId cfg it = true →
        kwTok cfg (ρ it.w) = none ∧ (ρ it.w).length < cfg.maxLen ∧ it.w.length < cfg.maxLen)
    (hnl : noNewlines sep0 items = true) (hnl' : noNewlines sep0 (renItems cfg ρ items) = true)
    (h0 : sepOK sep0 (renderItems items) = true) (h : Renderable cfg items = true)
    (h0' : sepOK sep0 (renderItems (renItems cfg ρ items)) = true)
    (h' : Renderable { cfg with isType := isType' } (renItems cfg ρ items) = true) :
    lex { cfg with isType := isType' } (sepText sep0 ++ renderItems (renItems cfg ρ items)) =
      (lex cfg (sepText sep0 ++ renderItems items)).map (renTok ρ) :=
  lex_rename cfg hwf isType' ρ sep0 items htype hsoft hρ (.inr hnl) h0 h h0' h'

/-- **The range of the renaming.**  A text of the shape `{alpha}{idchr}*` that is not the text of a literal rule of
    lexer.l, not a keyword under the current syntax and shorter than MAXLEN is matched by the identifier rule and
    comes out as T_ID / T_TYPENAME with exactly that spelling (so it satisfies the lexeme part of `Renderable`). -/
theorem C09_rename_lexeme (cfg : Cfg) (hiw : IdentWF cfg.rules = true) (x : List Ch) (hid : identShaped x = true)
    (hlit : x ∉ litTexts cfg.rules) (hk : kwTok cfg x = none) (hlen : x.length < cfg.maxLen) (n : Nat) :
    best cfg.rules x = some (.ident, x.length) ∧
    action cfg n .ident x = ([if cfg.isType n x then .typename x else .id x], false) :=
  ⟨best_ident cfg.rules hiw x hid hlit, action_ident cfg n x hk hlen⟩

/-- the hypotheses of `C09_rename_lexeme` are satisfiable (the name `sup`, a keyword only under PROPERTY syntax) -/
example : identShaped [115, 117, 112] = true ∧ [115, 117, 112] ∉ litTexts Gen.rules ∧
    kwTok (genCfg maskNew (fun _ _ => false)) [115, 117, 112] = none := by decide +kernel

/-- **Exception set of the renaming theorem (computed).**  The identifier-shaped spellings that are literal rules of
    lexer.l without being keywords — names a user may choose but that the identifier rule never sees: A U R W E. -/
def exceptionNames : List (List Ch) :=
  (litTexts Gen.rules).filter fun l => identShaped l && (kwFind Gen.keywordTable l).isNone

theorem C09_exception_names : exceptionNames = [[65], [85], [82], [87], [69]] := by decide +kernel

/-- every other name is covered: outside `exceptionNames`, a non-keyword identifier-shaped spelling is not a literal -/
theorem C09_rename_full_outside_exceptions (x : List Ch) (hid : identShaped x = true)
    (hk : kwFind Gen.keywordTable x = none) (hx : x ∉ exceptionNames) : x ∉ litTexts Gen.rules := by
  intro hm
  apply hx
  simp only [exceptionNames, List.mem_filter, Bool.and_eq_true, Option.isNone_iff_eq_none]
  exact ⟨hm, hid, hk⟩

/-- **Negation on the witnesses** (`rename:typedef-named-A` …): with a symbol table in which every name is a type,
    `B` is a T_TYPENAME; a name of the exception set is one exactly when its literal rule of lexer.l has been repaired to
    consult `is_type` first (`Gen.softLits`, regenerated from the source: empty on the unrepaired tree, where renaming the
    typedef `B` to `A` therefore changes the token stream beyond the renaming). -/
theorem C09_witness_typedef_named :
    let cfg := genCfg maskNew (fun _ _ => true)
    lex cfg [66] = [.typename [66]] ∧
    ∀ x ∈ exceptionNames, decide (lex cfg x = [.typename x]) = Gen.softLits.contains x := by
  simp only [lex_eq_lexOn, C09_exception_names]
  decide +kernel

/-- what the grammar's `NonTypeId` makes of a token: the identifier spelling it stands for -/
def identView : Tok → Option (List Ch)
  | .id s => some s
  | .lit t => (lookup Gen.nonTypeId t).join
  | _ => none

/-- **Soft keywords as non-type names are fine**: every spelling that `NonTypeId` re-admits (A U W R E sup inf bounds
    simulation) lexes — in model syntax and in PROPERTY syntax — to a token that `NonTypeId` turns back into exactly
    that spelling (`M` has no lexer rule: the token 'M' is never produced, the spelling is an ordinary T_ID). -/
theorem C09_softid_roundtrip :
    ∀ p ∈ Gen.nonTypeId, ∀ s, p.2 = some s →
      (lex (genCfg maskNew (fun _ _ => false)) s).map identView = [some s] ∧
      (lex (genCfg Gen.bitPROPERTY (fun _ _ => false)) s).map identView = [some s] := by
  simp only [lex_eq_lexOn]
  decide +kernel

/-- **Exception set in PROPERTY syntax (computed)**: the spellings `NonTypeId` re-admits that are keywords of a query —
    usable there as plain identifiers (`C09_softid_roundtrip`) but never as type names: sup inf bounds simulation. -/
def queryExceptionNames : List (List Ch) :=
  (Gen.nonTypeId.filterMap (·.2)).filter fun s => (kwTok (genCfg Gen.bitPROPERTY (fun _ _ => false)) s).isSome

theorem C09_query_exception_names :
    queryExceptionNames = [[115, 117, 112], [105, 110, 102], [98, 111, 117, 110, 100, 115],
                           [115, 105, 109, 117, 108, 97, 116, 105, 111, 110]] := by decide +kernel

/-- negation on the witnesses (`rename:query-typedef-named-*`): in a query, with a symbol table in which every name is
    a type, `idx` is a T_TYPENAME but neither the soft keywords nor the one-letter tokens are -/
theorem C09_witness_query_typedef_named :
    let cfg := genCfg Gen.bitPROPERTY (fun _ _ => true)
    lex cfg [105, 100, 120] = [.typename [105, 100, 120]] ∧
    ∀ x ∈ queryExceptionNames ++ exceptionNames, lex cfg x ≠ [.typename x] := by
  simp only [lex_eq_lexOn, C09_query_exception_names, C09_exception_names]
  decide +kernel

/-! ### renaming, scope half -/

/-- **Renaming, scope half.**  For an injective renaming, a renamed name resolves in the renamed frame chain to the
    same declaration (same frame, same index, same typedef flag) — hence `is_type` answers equivariantly, which is the
    hypothesis `htype` of `C09_rename_lex`. -/
theorem C09_scope_equivariant (ρ : List Ch → List Ch) (hinj : ∀ a b, ρ a = ρ b → a = b) (chain : List Frame) (x : List Ch) :
    resolve (chain.map (renFrame ρ)) (ρ x) = resolve chain x ∧
    isTypeIn (chain.map (renFrame ρ)) (ρ x) = isTypeIn chain x := by
  have key : ∀ (chain : List Frame) (d : Nat), resolve.go (ρ x) (chain.map (renFrame ρ)) d = resolve.go x chain d := by
    intro chain
    induction chain with
    | nil => intro d; rfl
    | cons f rest ih =>
      intro d
      simp only [List.map_cons, resolve.go, Frame.find, find_go_ren ρ hinj x f 0 none]
      cases Frame.find.go x f 0 none with
      | none => exact ih (d + 1)
      | some p => rfl
  have h1 : resolve (chain.map (renFrame ρ)) (ρ x) = resolve chain x := key chain 0
  exact ⟨h1, by simp only [isTypeIn, h1]⟩

/-- injectivity is needed: a non-injective renaming can capture (`b` resolves to the inner declaration after a,b ↦ c) -/
example : ∃ (ρ : List Ch → List Ch) (chain : List Frame) (x : List Ch),
    resolve (chain.map (renFrame ρ)) (ρ x) ≠ resolve chain x :=
  ⟨fun _ => [99], [[([97], false)], [([98], true)]], [98], by decide⟩

/-! ## 3. keyword aliases -/

/-- the parser learns exactly the same about `and`/`&&`, `or`/`||`, `not`/`!`: same precedence line, same
    associativity, same production shape, same callback with the same kind -/
theorem C09_alias_info :
    litInfo genTables Gen.T_KW_AND = litInfo genTables Gen.T_BOOL_AND ∧
    litInfo genTables Gen.T_KW_OR = litInfo genTables Gen.T_BOOL_OR ∧
    litInfo genTables Gen.T_KW_NOT = litInfo genTables Gen.T_EXCLAM := by decide +kernel
theorem C09_alias_and : litInfo genTables Gen.T_KW_AND = litInfo genTables Gen.T_BOOL_AND := C09_alias_info.1
theorem C09_alias_or : litInfo genTables Gen.T_KW_OR = litInfo genTables Gen.T_BOOL_OR := C09_alias_info.2.1
theorem C09_alias_not : litInfo genTables Gen.T_KW_NOT = litInfo genTables Gen.T_EXCLAM := C09_alias_info.2.2

/-- the grammar contexts of a token: every occurrence in ANY production of parser.y (regenerated), as
    `LHS: alternative with the occurrence written @` -/
def aliasCtx (t : TokId) : List String := ((Gen.aliasContexts.find? (fun p => p.1 == t)).map (·.2)).getD []

/-- the one grammar context in which `!` is not the negation operator: the send half of a synchronisation (`c!`);
    hand-written, independent of the generated table -/
def bangIsSend (c : String) : Bool := c.startsWith "SyncExpr: "

/-- **Aliases, whole grammar.**  Outside `Expression` too (query forms such as `A[] (p and A<> q)`), a keyword alias and its
    symbolic twin occur in exactly the same productions at the same positions with the same actions -- so replacing one by
    the other cannot change which production fires anywhere in the grammar. -/
theorem C09_alias_contexts :
    aliasCtx Gen.T_KW_AND = aliasCtx Gen.T_BOOL_AND ∧ aliasCtx Gen.T_KW_OR = aliasCtx Gen.T_BOOL_OR ∧
    aliasCtx Gen.T_KW_NOT = (aliasCtx Gen.T_EXCLAM).filter (fun c => !bangIsSend c) ∧
    aliasCtx Gen.T_KW_AND ≠ [] ∧ aliasCtx Gen.T_KW_OR ≠ [] ∧ aliasCtx Gen.T_KW_NOT ≠ [] :=
  -- the alias and its twin have literally the same entries: `rfl` sees that without comparing strings character by character
  ⟨rfl, rfl, by decide +kernel, by decide +kernel, by decide +kernel, by decide +kernel⟩

/-- `:=` and `=` are the same token already in the lexer -/
theorem C09_alias_assign :
    lex (genCfg maskNew (fun _ _ => false)) [58, 61] = lex (genCfg maskNew (fun _ _ => false)) [61] ∧
    lex (genCfg maskNew (fun _ _ => false)) [61] = [.lit Gen.T_ASSIGNMENT] := by
  simp only [lex_eq_lexOn]
  decide +kernel

/-- the keyword spellings and the symbolic spellings lex to the tokens named above, under each of the three syntax masks -/
theorem C09_alias_lex_masks : ∀ mask ∈ [maskNew, maskOld, Gen.bitPROPERTY],
    let cfg := genCfg mask (fun _ _ => false)
    lex cfg [97, 110, 100] = [.lit Gen.T_KW_AND] ∧ lex cfg [38, 38] = [.lit Gen.T_BOOL_AND] ∧
    lex cfg [111, 114] = [.lit Gen.T_KW_OR] ∧ lex cfg [124, 124] = [.lit Gen.T_BOOL_OR] ∧
    lex cfg [110, 111, 116] = [.lit Gen.T_KW_NOT] ∧ lex cfg [33] = [.lit Gen.T_EXCLAM] := by
  simp only [lex_eq_lexOn]
  decide +kernel

theorem C09_alias_lex :
    let cfg := genCfg maskNew (fun _ _ => false)
    lex cfg [97, 110, 100] = [.lit Gen.T_KW_AND] ∧ lex cfg [38, 38] = [.lit Gen.T_BOOL_AND] ∧
    lex cfg [111, 114] = [.lit Gen.T_KW_OR] ∧ lex cfg [124, 124] = [.lit Gen.T_BOOL_OR] ∧
    lex cfg [110, 111, 116] = [.lit Gen.T_KW_NOT] ∧ lex cfg [33] = [.lit Gen.T_EXCLAM] :=
  C09_alias_lex_masks maskNew (.head _)

/-- **the keyword operators are operators in every syntax**: in the 3.x syntax (`newxta = false`) and in the property syntax the
    words `and`, `or`, `not` lex to the same tokens as in the 4.x syntax (and the symbolic spellings to theirs), so that
    `C09_alias_and/or/not`, `C09_alias_contexts` and `C09_alias_trace` -- statements about tokens -- speak about the texts of those
    syntaxes too.  (The keyword table carries one syntax mask per word; this is the statement that none of the three lacks a bit.) -/
theorem C09_alias_lex_old :
    let cfg := genCfg maskOld (fun _ _ => false)
    lex cfg [97, 110, 100] = [.lit Gen.T_KW_AND] ∧ lex cfg [38, 38] = [.lit Gen.T_BOOL_AND] ∧
    lex cfg [111, 114] = [.lit Gen.T_KW_OR] ∧ lex cfg [124, 124] = [.lit Gen.T_BOOL_OR] ∧
    lex cfg [110, 111, 116] = [.lit Gen.T_KW_NOT] ∧ lex cfg [33] = [.lit Gen.T_EXCLAM] :=
  C09_alias_lex_masks maskOld (.tail _ (.head _))
theorem C09_alias_lex_property :
    let cfg := genCfg Gen.bitPROPERTY (fun _ _ => false)
    lex cfg [97, 110, 100] = [.lit Gen.T_KW_AND] ∧ lex cfg [38, 38] = [.lit Gen.T_BOOL_AND] ∧
    lex cfg [111, 114] = [.lit Gen.T_KW_OR] ∧ lex cfg [124, 124] = [.lit Gen.T_BOOL_OR] ∧
    lex cfg [110, 111, 116] = [.lit Gen.T_KW_NOT] ∧ lex cfg [33] = [.lit Gen.T_EXCLAM] :=
  C09_alias_lex_masks Gen.bitPROPERTY (.tail _ (.tail _ (.head _)))

/-- replace the alias tokens by their symbolic twins -/
def aliasSubst : Tok → Tok
  | .lit t => if t = Gen.T_KW_AND then .lit Gen.T_BOOL_AND else if t = Gen.T_KW_OR then .lit Gen.T_BOOL_OR
              else if t = Gen.T_KW_NOT then .lit Gen.T_EXCLAM else .lit t
  | t => t

/-- the same non-vacuity example in the 3.x syntax: `a and not b or c` lexes to the tokens of `a && !b || c` up to `aliasSubst` -/
example :
    let cfg := genCfg maskOld (fun _ _ => false)
    (lex cfg [97, 32, 97, 110, 100, 32, 110, 111, 116, 32, 98, 32, 111, 114, 32, 99]).map aliasSubst =
      lex cfg [97, 32, 38, 38, 32, 33, 98, 32, 124, 124, 32, 99] := by
  simp only [lex_eq_lexOn]
  decide +kernel

/-- **Aliases.**  The operator parser sees a token only through its `Info`; a substitution of tokens that preserves
    `Info` therefore preserves the callback trace — for ANY token stream (complete expression or not). -/
theorem C09_alias_trace_general (T : Tables) (f : Tok → Tok) (h : ∀ t, tokInfo T (f t) = tokInfo T t) (toks : List Tok) :
    opsTraceT T (toks.map f) = opsTraceT T toks := by
  simp only [opsTraceT, mapM_map_info T f h toks]

theorem C09_alias_trace (toks : List Tok) : opsTraceT genTables (toks.map aliasSubst) = opsTraceT genTables toks := by
  apply C09_alias_trace_general
  intro t
  cases t with
  | lit t =>
    simp only [aliasSubst]
    split
    · rename_i e; subst e; simp only [tokInfo, C09_alias_and]
    · split
      · rename_i e; subst e; simp only [tokInfo, C09_alias_or]
      · split
        · rename_i e; subst e; simp only [tokInfo, C09_alias_not]
        · rfl
  | _ => rfl

/-- non-vacuity: `a and not b or c` and `a && !b || c` have the same, non-trivial, trace -/
example :
    let cfg := genCfg maskNew (fun _ _ => false)
    -- "a and not b or c"
    let t1 := lex cfg [97, 32, 97, 110, 100, 32, 110, 111, 116, 32, 98, 32, 111, 114, 32, 99]
    -- "a && !b || c"
    let t2 := lex cfg [97, 32, 38, 38, 32, 33, 98, 32, 124, 124, 32, 99]
    t1.map aliasSubst = t2 ∧
    opsTraceT genTables t1 = some ["expr_identifier a", "expr_identifier b", "expr_unary NOT", "expr_binary AND",
                                   "expr_identifier c", "expr_binary OR"] := by
  simp only [lex_eq_lexOn]
  decide +kernel

/-! ## 4. redundant parentheses -/

open Pratt in
/-- **Parentheses.**  Let `t` be an expression tree that is well-formed for a precedence table (i.e. it is the tree the
    table assigns to its own token string), and `t'` the same tree with ANY number of additional parenthesis nodes
    around ANY sub-expressions.  Then the precedence-climbing parser yields the same callback trace `val t` for both
    token strings.  (Scope: atoms, prefix operators with a `%prec` level, binary operators of a `%left/%right` table,
    parentheses.  Postfix operators, `?:`, calls, indexing and quantifiers are covered for parentheses only by the
    metamorphic runs on the real library and the trace correspondence of the larger `C09Ops` model.) -/
theorem C09_paren (T : Tbl) (hT : T.Consistent) (t t' : PExpr) (hw : WF T 0 t) (hx : ParenExt t t') :
    ∃ f, ∀ g, f ≤ g → Pratt.parseE T g 0 (toks t') = some (val t, []) ∧ Pratt.parseE T g 0 (toks t) = some (val t, []) := by
  obtain ⟨f1, h1⟩ := roundtrip T hT t hw
  obtain ⟨f2, h2⟩ := roundtrip T hT t' (parenExt_wf T hx 0 hw)
  refine ⟨max f1 f2, fun g hg => ⟨?_, h1 g (by omega)⟩⟩
  rw [← parenExt_val hx]
  exact h2 g (by omega)

/- `genTbl` (Model/C09GenTbl.lean): the table of the current parser.y as a `Pratt.Tbl` — level = index of the
   `%left/%right` line, associativity = that line's. -/
theorem genTbl_consistent : genTbl.Consistent := by
  simp only [Pratt.Tbl.Consistent, genTbl]
  exact ⟨fun _ _ h => congrArg levelRight h, fun _ _ h => congrArg levelRight h⟩

/-- `genTbl.rassoc` is the associativity bison uses for every token of every precedence line -/
theorem genTbl_faithful :
    ∀ la ∈ Gen.precLevels, ∀ t ∈ la.2, levelOf Gen.precLevels t = some (genTbl.bp t, la.1) ∧
      genTbl.rassoc t = (la.1 == .right) ∧ genTbl.prassoc t = true ∧ levelNo Gen.UOPERATOR = 21 := by
  decide +kernel

/-- the production `'(' Expression ')'` fires no callback (the translator refuses any action there) -/
theorem C09_paren_production_silent : Gen.parenCallbacks = [] := rfl

theorem C09_paren_utap (t t' : Pratt.PExpr) (hw : Pratt.WF genTbl 0 t) (hx : Pratt.ParenExt t t') :
    ∃ f, ∀ g, f ≤ g → Pratt.parseE genTbl g 0 (Pratt.toks t') = some (Pratt.val t, []) ∧
      Pratt.parseE genTbl g 0 (Pratt.toks t) = some (Pratt.val t, []) :=
  C09_paren genTbl genTbl_consistent t t' hw hx

open Pratt in
/-- the hypotheses are satisfiable by a non-trivial value: `a + b * c` and `((a) + (b * (c)))` -/
example :
    let t : PExpr := .bin Gen.T_PLUS (.atom 1) (.bin Gen.T_MULT (.atom 2) (.atom 3))
    let t' : PExpr := .paren (.bin Gen.T_PLUS (.paren (.atom 1)) (.paren (.bin Gen.T_MULT (.atom 2) (.paren (.atom 3)))))
    WF genTbl 0 t ∧ ParenExt t t' ∧ val t = [.at 1, .at 2, .at 3, .bi Gen.T_MULT, .bi Gen.T_PLUS] := by
  refine ⟨?_, ?_, rfl⟩
  · simp only [WF]; decide +kernel
  · exact .wrap (.bin _ (.wrap (.atom 1)) (.wrap (.bin _ (.atom 2) (.wrap (.atom 3)))))

end UtapModel.C09.Props
