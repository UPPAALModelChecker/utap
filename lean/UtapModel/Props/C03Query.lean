/-
C03 (queries) — printing a verification query and re-parsing it reproduces the same tree.

The query layer (Model/Query.lean): `A<> e`, `A[] e`, `E<> e`, `E[] e`, `a --> b`, `A[a U b]`, `A[a W b]`, the same under `control:`,
`E<> control:`, `control_t*(a, b):`, `control_t*(a):`, `control_t*:`, `{ l } control:`, and `sup` / `inf` / `bounds` with and without a
predicate.  The printer of the model is driven by the layouts that translate/query_tables.py reads from `expression_t::print` on every
run; the parser implements the productions `modelProds`, which `C03_query_tables` proves to be productions of the current parser.y with
the same builder callbacks; operands are expressions of any size, printed by the expression printer of C03 and read by the expression
parser of C02, and must meet the computed criterion `good` of C03 (the exception shapes of the expression level carry over unchanged).

Outside the theorem (correspondence and testing in checks/c03.py): the Büchi form `A[] (p and A<> q)`, `Pr[..](..) <= p` (the builder
negates and computes 1 - p), strategies and `under`, MITL; white space inside the layouts (the model is at token level).
-/
import UtapModel.Lemmas.Query
import UtapModel.Lemmas.QuerySmc
import UtapModel.Lemmas.QuerySmc2
import UtapModel.Spec.OperatorTable

namespace UtapModel.C03Query
open UtapModel.Pratt UtapModel.ExprTable UtapModel.PrintModel UtapModel.QueryTables UtapModel.Query UtapModel.Spec

/-- **tie T**: every production the model's parser implements is a production of the current grammar, with the same callbacks -/
theorem C03_query_tables : ∀ p ∈ modelProds, p ∈ queryProds := by decide +kernel

/-- the comma-join reading of the LIST print case is what the translator matched -/
theorem C03_query_list_layout : listIsCommaJoin = true := by decide

/-- **printing a query and re-parsing it reproduces the query**: every form of the query layer, operands of any size -/
theorem C03_query_roundtrip (q : Query) (h : q.wf = true) : parseQ (qprint q) = some q := query_roundtrip q h

/-- **the second conversion gives the identical token stream** -/
theorem C03_query_idempotent (q q' : Query) (h : q.wf = true) (hp : parseQ (qprint q) = some q') : qprint q' = qprint q := by
  rw [C03_query_roundtrip q h] at hp
  injection hp with hp
  rw [← hp]

/-- a sub-property is read back in front of anything that cannot continue an expression (used for every `control` form) -/
theorem C03_subproperty_roundtrip (s : Sub) (h : s.wf = true) (rest : List Tok) (hs : QStop rest) :
    parseSub (printSub P s ++ rest) = some (s, rest) := parseSub_print s h hs.1

/-! ### non-vacuity: concrete queries meet the hypothesis; the hypothesis on lists cannot be dropped -/

private def x : Expr := .atom (.ident "x")
private def gt1 : Expr := .bin (tokOfText ">") x (.atom (.nat 1))

/-- One evaluation for the operands of the sample queries of this file (with a bound `l <= e`, the comparison the printer writes is
    one of them): every evaluation of `goodE` walks the string-keyed printer tables. -/
theorem operands_good : ∀ e ∈ [x, gt1, .atom (.ident "c"), .atom (.nat 3), .atom (.nat 5), .atom (.nat 10),
    .bin (tokOfText "+") x (.atom (.nat 1)), .pre (tokOfText "!") x, .tern gt1 x (.atom (.nat 2)),
    .bin (tokOfText "+") x (.atom (.nat 10)), .bin (tokOfText "&&") x x,
    .bin QuerySmc.leqTok (.atom (.ident "c")) (.bin (tokOfText "+") x (.atom (.nat 10))),
    .bin QuerySmc.leqTok (.atom (.ident "c")) (.bin (tokOfText "&&") x x),
    .bin QuerySmc.leqTok (.atom (.ident "c")) (.atom (.nat 5))], goodE e = true := by decide +kernel

example : (Query.ct2 (.atom (.nat 3)) (.bin (tokOfText "+") x (.atom (.nat 1))) (.until true gt1 (.pre (tokOfText "!") x))).wf = true := by
  simp [Query.wf, Sub.wf, operands_good]
example : (Query.opt 1 gt1 [x, .tern gt1 x (.atom (.nat 2))]).wf = true := by simp [Query.wf, operands_good]
example : (Query.po [] (.leadsTo gt1 x)).wf = true := by simp [Query.wf, Sub.wf, operands_good]
example : toksTextQ (qprint (.sub (.until false gt1 x))) = "A [ x > 1 U x ]" := by decide +kernel
/-- `sup{p}:` with an empty list is not a query: the printed text is rejected -/
theorem C03_query_empty_list_witness : parseQ (qprint (.opt 0 (.atom .tru) [])) = none := by decide +kernel

/-! ### the statistical forms (Model/QuerySmc.lean): `Pr[B](<> e)`, `Pr[B]([] e)`, `Pr[B](a U b)`, `E[B](max: e)`, `simulate[B]{..}` -/

open UtapModel.QuerySmc in
/-- **tie T**: the productions of the statistical forms the model implements are productions of the current grammar, same callbacks -/
theorem C03_smc_tables : ∀ p ∈ modelProdsSmc, p ∈ queryProds := by decide +kernel

open UtapModel.QuerySmc in
/-- **printing a statistical query and re-parsing it reproduces the query**: any bound type, with or without a run count, operands of
    any size; the `[]` form has no second operand (the builder pushes `true`), `simulate` always carries its run count -/
theorem C03_smc_roundtrip (q : SQuery) (h : q.wf = true) : parseS (sprint q) = some q := smc_roundtrip q h

open UtapModel.QuerySmc in
theorem C03_smc_idempotent (q q' : SQuery) (h : q.wf = true) (hp : parseS (sprint q) = some q') : sprint q' = sprint q := by
  rw [C03_smc_roundtrip q h] at hp
  injection hp with hp
  rw [← hp]

open UtapModel.QuerySmc in
/-- a bound is read back in front of anything -/
theorem C03_smc_bound_roundtrip (b : Bnd) (h : b.wf = true) (rest : List Tok) :
    parseBnd (bndToks P b ++ .rb :: rest) = some (b, rest) := parseBnd_print b h rest

open UtapModel.QuerySmc in
example : (SQuery.pr false { kind := .expr (.atom (.ident "c")), bound := .bin (tokOfText "+") x (.atom (.nat 10)), runs := some 5 } gt1
    (.pre (tokOfText "!") x)).wf = true := by simp [SQuery.wf, Bnd.wf, QuerySmc.isTrue, operands_good]
open UtapModel.QuerySmc in
example : (SQuery.sim { kind := .steps, bound := .atom (.nat 10), runs := some 1 } [x, gt1]).wf = true := by
  simp [SQuery.wf, Bnd.wf, operands_good]
open UtapModel.QuerySmc in
/-- a bound whose operand needs parentheses next to `<=` is covered: `E[c <= (x && x)](max: x)` (written bare before the repair 9985bc8) -/
example : (SQuery.ex { kind := .expr (.atom (.ident "c")), bound := .bin (tokOfText "&&") x x, runs := none } true x).wf = true ∧
    toksTextQ (sprint (.ex { kind := .expr (.atom (.ident "c")), bound := .bin (tokOfText "&&") x x, runs := none } true x)) =
      "E [ c <= ( x && x ) ] ( max : x )" := ⟨by simp [SQuery.wf, Bnd.wf, operands_good], by decide +kernel⟩
open UtapModel.QuerySmc in
example : toksTextQ (sprint (.ex { kind := .time, bound := .atom (.nat 9), runs := none } true x)) = "E [ <= 9 ] ( max : x )" := by decide +kernel
open UtapModel.QuerySmc in
/-- the hypothesis on the `[]` form cannot be dropped: a second operand of `Pr[..]([] e)` is not printed -/
theorem C03_smc_box_until_witness :
    parseS (sprint (.pr true { kind := .time, bound := .atom (.nat 9), runs := none } x gt1)) ≠
      some (.pr true { kind := .time, bound := .atom (.nat 9), runs := none } x gt1) := by decide +kernel

/-! ### the remaining statistical forms (Model/QuerySmc2.lean): `Pr[B](<> e) >= p`, `Pr[B](<> a) >= Pr[B']([] b)`, `simulate[B]{..} : n : e` -/

open UtapModel.QuerySmc in
/-- **tie T**: the productions of these forms are productions of the current grammar, with the same callbacks -/
theorem C03_smc2_tables : ∀ p ∈ modelProdsSmc2, p ∈ queryProds := by decide +kernel

open UtapModel.QuerySmc in
/-- **printing a hypothesis test, a comparison of probabilities or a filtered simulation and re-parsing it reproduces the query**: any
    bound type, operands of any size; a comparison carries no run counts (the builder refuses them), a filtered simulation always
    prints its run count and its number of accepting runs -/
theorem C03_smc2_roundtrip (q : XQuery) (h : q.wf = true) : parseX (xprint q) = some q := smc2_roundtrip q h

open UtapModel.QuerySmc in
theorem C03_smc2_idempotent (q q' : XQuery) (h : q.wf = true) (hp : parseX (xprint q) = some q') : xprint q' = xprint q := by
  rw [C03_smc2_roundtrip q h] at hp
  injection hp with hp
  rw [← hp]

open UtapModel.QuerySmc in
/-- the head `B ]( <> e )` of a probability query is read back in front of anything -/
theorem C03_smc2_head_roundtrip (b : Bnd) (hb : b.wf = true) (box : Bool) (e : Expr) (he : goodE e = true) (rest : List Tok) :
    prHead (bndToks P b ++ .rb :: .lp :: .sym (qid (pathName box)) :: (P e ++ .rp :: rest)) = some (b, box, e, rest) :=
  prHead_print b hb box e he rest

open UtapModel.QuerySmc in
example : (XQuery.cmp { kind := .time, bound := .atom (.nat 10), runs := none } false gt1
    { kind := .expr (.atom (.ident "c")), bound := .atom (.nat 5), runs := none } true x).wf = true := by
  simp [XQuery.wf, Bnd.wf, operands_good]
open UtapModel.QuerySmc in
example : (XQuery.reach { kind := .steps, bound := .atom (.nat 10), runs := some 5 } [x, gt1] 3 (.pre (tokOfText "!") x)).wf = true := by
  simp [XQuery.wf, Bnd.wf, operands_good]
open UtapModel.QuerySmc in
example : toksTextQ (xprint (.qual true { kind := .time, bound := .atom (.nat 9), runs := some 7 } gt1 "0.5")) =
    "Pr [ <= 9 ; 7 ] ( [] x > 1 ) >= 0.5" := by decide +kernel
open UtapModel.QuerySmc in
example : toksTextQ (xprint (.reach { kind := .time, bound := .atom (.nat 9), runs := some 1 } [x] 0 gt1)) =
    "simulate [ <= 9 ; 1 ] { x } : 0 : x > 1" := by decide +kernel
open UtapModel.QuerySmc in
/-- the hypothesis on comparisons cannot be dropped: a run count is not printed, so it does not come back -/
theorem C03_smc2_cmp_runs_witness :
    parseX (xprint (.cmp { kind := .time, bound := .atom (.nat 9), runs := some 3 } false x { kind := .time, bound := .atom (.nat 9), runs := none } false x)) ≠
      some (.cmp { kind := .time, bound := .atom (.nat 9), runs := some 3 } false x { kind := .time, bound := .atom (.nat 9), runs := none } false x) := by
  decide +kernel

end UtapModel.C03Query
