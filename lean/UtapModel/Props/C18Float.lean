/-
C18, floating-point element types: the order-theoretic operations of `range_t<T>` for a `T` with infinities and
`nexttoward`, over the abstract structure `FloatLike` (Model/FloatLike.lean).  The definitions are regenerated from
include/utap/range.h (Gen/RangeOrd.lean), including the `if constexpr (has_infinity)` branches of `gt`/`lt`.
Arithmetic on floating-point ranges rounds, so "+ - *" are claimed for integral types only (Props/C18.lean).
As there, no proof depends on the order in which a `std::min` or `std::max` of range.h takes its arguments: after the
order lemma (`max_le_iff`, `le_min_iff`) the rest is propositional and left to `tauto`.
-/
import UtapModel.Gen.RangeOrd
import Mathlib.Order.MinMax
import Mathlib.Order.Fin.Basic

namespace UtapModel.C18F
open UtapModel UtapModel.RangeOrd

variable {α : Type} [FloatLike α]

def Mem (x : α) (r : ROrd α) : Prop := r.start ≤ x ∧ x ≤ r.finish
def NonEmpty (r : ROrd α) : Prop := r.start ≤ r.finish

theorem NonEmpty.start_mem {r : ROrd α} (h : NonEmpty r) : Mem r.start r := ⟨le_refl _, h⟩
theorem NonEmpty.finish_mem {r : ROrd α} (h : NonEmpty r) : Mem r.finish r := ⟨h, le_refl _⟩

theorem not_mem_empty (x : α) : ¬ Mem x (ROrd.mk 1 0) := by
  intro ⟨h1, h2⟩
  exact absurd (lt_of_lt_of_le FloatLike.zero_lt_one' (le_trans h1 h2)) (lt_irrefl _)

theorem mem_geq (r : ROrd α) (l x : α) : Mem x (r.geq l) ↔ Mem x r ∧ l ≤ x := by
  simp only [Mem, ROrd.geq, max_le_iff]
  tauto

theorem mem_leq (r : ROrd α) (u x : α) : Mem x (r.leq u) ↔ Mem x r ∧ x ≤ u := by
  simp only [Mem, ROrd.leq, le_min_iff]
  tauto

/-- gt keeps exactly the members strictly above the bound — including the bounds +inf (result empty) and -inf -/
theorem mem_gt (r : ROrd α) (l x : α) : Mem x (r.gt l) ↔ Mem x r ∧ l < x := by
  -- the guard `isinf(l) && l > max()` holds exactly for `l = +inf`; below it, `gt l` is `geq (nx l)`
  simp only [ROrd.gt, if_true, gt_iff_lt, FloatLike.fmax_lt_iff, Bool.and_eq_true, decide_eq_true_eq]
  split
  · next h => exact iff_of_false (not_mem_empty x) fun hx => not_top_lt (h.2 ▸ hx.2)
  · next h =>
    have hlt : l < ⊤ := lt_top_iff_ne_top.2 fun e => h ⟨.inl e, e⟩
    rw [FloatLike.lt_iff_nx_le l x hlt]
    clear h hlt  -- or `tauto` takes the guard apart as well
    simp only [Mem, max_le_iff]
    tauto

theorem mem_lt (r : ROrd α) (u x : α) : Mem x (r.lt u) ↔ Mem x r ∧ x < u := by
  simp only [ROrd.lt, if_true, FloatLike.lt_flowest_iff, Bool.and_eq_true, decide_eq_true_eq]
  split
  · next h => exact iff_of_false (not_mem_empty x) fun hx => not_lt_bot (h.2 ▸ hx.2)
  · next h =>
    have hlt : ⊥ < u := bot_lt_iff_ne_bot.2 fun e => h ⟨.inr e, e⟩
    rw [FloatLike.lt_iff_le_px x u hlt]
    clear h hlt
    simp only [Mem, le_min_iff]
    tauto

theorem mem_and (a b : ROrd α) (x : α) : Mem x (a.andR b) ↔ Mem x a ∧ Mem x b := by
  simp only [ROrd.andR, ROrd.andAssignR, mem_leq, mem_geq]
  simp only [Mem]
  tauto

theorem mem_andT (a : ROrd α) (e x : α) : Mem x (a.andT e) ↔ Mem x a ∧ x = e :=
  (mem_and a (.single e) x).trans (and_congr_right' (and_comm.trans le_antisymm_iff.symm))

/-- convex union: contains both operands and every point between two of their members; nothing else -/
theorem mem_or (a b : ROrd α) (ha : NonEmpty a) (hb : NonEmpty b) (x : α) :
    Mem x (a.orR b) ↔ ∃ p q, (Mem p a ∨ Mem p b) ∧ (Mem q a ∨ Mem q b) ∧ p ≤ x ∧ x ≤ q := by
  -- premises are found by `assumption`, so that the order in which `min` and `max` take their arguments does not matter
  constructor
  · intro h
    let P (t : α) : Prop := Mem t a ∨ Mem t b
    have sa : P a.start := .inl ha.start_mem
    have sb : P b.start := .inr hb.start_mem
    have fa : P a.finish := .inl ha.finish_mem
    have fb : P b.finish := .inr hb.finish_mem
    have lo : P (a.orR b).start := min_rec' P (by assumption) (by assumption)
    have hi : P (a.orR b).finish := max_rec' P (by assumption) (by assumption)
    exact ⟨_, _, lo, hi, h.1, h.2⟩
  · rintro ⟨p, q, hp, hq, h1, h2⟩
    obtain ⟨_, _⟩ := le_min_iff.1 (le_refl (a.orR b).start)
    obtain ⟨_, _⟩ := max_le_iff.1 (le_refl (a.orR b).finish)
    constructor
    · rcases hp with hp | hp <;> exact le_trans (le_trans (by assumption) hp.1) h1
    · rcases hq with hq | hq <;> exact le_trans h2 (le_trans hq.2 (by assumption))

theorem contains_iff (r : ROrd α) (e : α) : r.contains e = true ↔ Mem e r := by
  simp [ROrd.contains, ROrd.overlapsT, Mem]

theorem intersects_iff (a b : ROrd α) (ha : NonEmpty a) (hb : NonEmpty b) :
    a.intersects b = true ↔ ∃ x, Mem x a ∧ Mem x b := by
  simp only [ROrd.intersects, ROrd.overlapsR]
  constructor
  · intro h
    split at h <;> simp only [decide_eq_true_eq] at *
    · next h0 => exact ⟨b.start, ⟨h0, h⟩, hb.start_mem⟩
    · next h0 => exact ⟨a.start, ha.start_mem, le_of_lt (lt_of_not_ge h0), h⟩
  · rintro ⟨x, ⟨h1, h2⟩, h3, h4⟩
    split <;> simp only [decide_eq_true_eq]
    · exact le_trans h3 h2
    · exact le_trans h1 h4

theorem lt_iff (a b : ROrd α) (ha : NonEmpty a) (hb : NonEmpty b) :
    a.lt_op b = true ↔ ∀ x y, Mem x a → Mem y b → x < y :=
  decide_eq_true_iff.trans
    ⟨fun h _ _ hx hy => lt_of_le_of_lt hx.2 (lt_of_lt_of_le h hy.1),
     fun h => h _ _ ha.finish_mem hb.start_mem⟩

theorem eq_iff (a b : ROrd α) (ha : NonEmpty a) (hb : NonEmpty b) :
    a.eq_opR b = true ↔ ∀ x, Mem x a ↔ Mem x b := by
  have na : a.empty = false := decide_eq_false (not_lt_of_ge ha)
  have nb : b.empty = false := decide_eq_false (not_lt_of_ge hb)
  simp only [ROrd.eq_opR, na, nb, Bool.or_self, Bool.false_eq_true, if_false, Bool.and_eq_true, decide_eq_true_eq]
  constructor
  · rintro ⟨h1, h2⟩ x; rw [Mem, h1, h2]; exact Iff.rfl
  · intro h
    -- each end point of one is a member of the other
    exact ⟨le_antisymm ((h _).1 ha.finish_mem).2 ((h _).2 hb.finish_mem).2,
      le_antisymm ((h _).2 hb.start_mem).1 ((h _).1 ha.start_mem).1⟩

/-! ### the structure is inhabited: a seven-element model (-inf < lowest < … < max < +inf) -/
instance : FloatLike (Fin 7) where
  __ := (inferInstance : LinearOrder (Fin 7))
  __ := (inferInstance : BoundedOrder (Fin 7))
  nx x := if h : x.val < 6 then ⟨x.val + 1, by omega⟩ else x
  px x := if h : 0 < x.val then ⟨x.val - 1, by omega⟩ else x
  fmax := 5
  flowest := 1
  zero_lt_one' := by decide
  lt_iff_nx_le := by decide
  lt_iff_le_px := by decide
  fmax_lt_iff := by decide
  lt_flowest_iff := by decide

example : ((ROrd.mk (1 : Fin 7) 5).gt 2).start = 3 ∧ ((ROrd.mk (1 : Fin 7) 5).gt 2).finish = 5 := by decide
example : ((ROrd.mk (1 : Fin 7) 5).gt ⊤).start = 1 ∧ ((ROrd.mk (1 : Fin 7) 5).gt ⊤).finish = 0 := by decide

end UtapModel.C18F
