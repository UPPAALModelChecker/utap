/- C16: a fault in one text block does not disturb the rest of the document.

   Model: M-BUILD (`UtapModel.Model.Builder`).  A non-declaring label (guard, invariant, synchronisation, update,
   probability, rate) is parsed through its own grammar entry point; whatever token string it contains -- valid, faulty,
   abandoned half way by bison's error recovery -- the builder only ever sees *expression-level* callbacks
   (`Call.isExprCall`: expression / type-stack callbacks, quantifier binders, diagnostics) followed, if the parse got
   that far, by the label's own callback (proc_guard, proc_sync, proc_update, proc_prob; invariant and rate labels have
   none: proc_location consumes the expression later).  The theorems quantify over ALL such call lists.
   The one clause that fails on the unchanged tree is `frames` (exception set computed in Model/C16.lean from the
   generated grammar): proved for frame-balanced lists, negated for lists with an abandoned binder. -/
import UtapModel.Lemmas.C16Table

namespace UtapModel.Builder

/-- an expression-level callback never touches the document, the current edge or the current template -/
theorem C16_expr_call_keeps_doc (s : BState) (c : Call) (h : c.isExprCall = true) :
    (step s c).doc = s.doc ∧ (step s c).currentEdge = s.currentEdge ∧ (step s c).currentTemplate = s.currentTemplate := by
  cases c <;> simp only [Call.isExprCall, Bool.false_eq_true] at h
  case typeName n =>
    obtain ⟨t, ht⟩ := step_typeName s n
    rw [ht]
    exact ⟨rfl, rfl, rfl⟩
  all_goals exact ⟨rfl, rfl, rfl⟩

/-- hence any list of them (any token string of a label, however faulty) leaves the whole document untouched -/
theorem C16_label_text_keeps_doc (t : List Call) (ht : ∀ c ∈ t, c.isExprCall = true) (s : BState) :
    (run s t).doc = s.doc ∧ (run s t).currentEdge = s.currentEdge ∧ (run s t).currentTemplate = s.currentTemplate := by
  induction t generalizing s with
  | nil => exact ⟨rfl, rfl, rfl⟩
  | cons c cs ih =>
    obtain ⟨h1, h2, h3⟩ := C16_expr_call_keeps_doc s c (ht c List.mem_cons_self)
    obtain ⟨i1, i2, i3⟩ := ih (fun c' hc' => ht c' (List.mem_cons_of_mem _ hc')) (step s c)
    exact ⟨i1.trans h1, i2.trans h2, i3.trans h3⟩

/-- the label's own callback: which field of the current edge it writes -/
inductive LabelKind where
  | guard | sync | update | prob
  deriving DecidableEq, Repr

def LabelKind.call : LabelKind → Call
  | .guard => .procGuard
  | .sync => .procSync
  | .update => .procUpdate
  | .prob => .procProb

def LabelKind.set : LabelKind → Edge → Expr → Edge
  | .guard, ed, e => { ed with guard := e }
  | .sync, ed, e => { ed with sync := e }
  | .update, ed, e => { ed with assign := e }
  | .prob, ed, e => { ed with prob := e }

/-- frame theorem: a label of kind κ, whatever its text, changes at most the κ field of the current edge -- every other
    label of that edge, every other edge, all locations, declarations, templates, instances and processes are the
    very same objects as before (and with no current edge nothing changes at all) -/
theorem C16_label_frame (κ : LabelKind) (t : List Call) (ht : ∀ c ∈ t, c.isExprCall = true) (s : BState) :
    ∃ v, (run s (t ++ [κ.call])).doc =
      match s.currentEdge with
      | none => s.doc
      | some (te, ie) => s.doc.modifyTempl te (fun T => { T with edges := T.edges.modify ie (fun ed => κ.set ed v) }) := by
  obtain ⟨hd, he, -⟩ := C16_label_text_keeps_doc t ht s
  rw [show run s (t ++ [κ.call]) = step (run s t) κ.call by simp [run, List.foldl_append], ← hd, ← he]
  generalize run s t = s'
  -- proc_sync stores a fresh expression, the other three the operand on top of the stack
  refine ⟨if κ = .sync then s'.nextExpr else s'.frag0, ?_⟩
  cases κ <;> cases hce : s'.currentEdge <;>
    simp [LabelKind.call, LabelKind.set, step, BState.setEdge, BState.fresh, BState.popFrag, BState.error, hce]

/-- `frames` clause: a label text whose binder pushes and pops are balanced leaves the frame stack as it found it;
    in general the stack is the old one with exactly `d` frames on top, `d` = number of abandoned binders -/
theorem C16_frames (t : List Call) (ht : ∀ c ∈ t, c.isExprCall = true) (s : BState) (d0 d : Nat) (pushed : List FrameId)
    (hs : pushed.length = d0) (base : List FrameId) (hf : s.frames = pushed ++ base) (hb : frameBal d0 t = some d) :
    ∃ pushed', pushed'.length = d ∧ (run s t).frames = pushed' ++ base := by
  subst hs
  exact run_stack (·.frames) Call.frameNeed frameBal (fun _ => rfl) frameBal_cons (fun s c h _ => frame_effect s c h) t ht s d pushed base hf hb

/-- balanced label text: `frames` is unchanged (what the property needs for the labels parsed afterwards) -/
theorem C16_frames_balanced (t : List Call) (ht : ∀ c ∈ t, c.isExprCall = true) (s : BState) (hb : frameBal 0 t = some 0) :
    (run s t).frames = s.frames := by
  obtain ⟨p, hp, hr⟩ := C16_frames t ht s 0 0 [] rfl s.frames (by simp) hb
  cases p with
  | nil => simpa using hr
  | cons _ _ => simp at hp

/-- the exception: a label text that abandons d ≥ 1 binders (syntax error between `forall (i : T)` and the end of its
    body) leaves d frames pushed -- the frame stack seen by every later label is NOT the one before the fault -/
theorem C16_frames_abandoned (t : List Call) (ht : ∀ c ∈ t, c.isExprCall = true) (s : BState) (d : Nat) (hd : 0 < d)
    (hb : frameBal 0 t = some d) : (run s t).frames ≠ s.frames := by
  obtain ⟨p, hp, hr⟩ := C16_frames t ht s 0 d [] rfl s.frames (by simp) hb
  intro heq
  rw [heq] at hr
  have := congrArg List.length hr
  rw [List.length_append] at this; omega

-- hypotheses are satisfiable: the callbacks of the guard `forall (i : int[0,1]) i > 0` and of the faulty `forall (i : int[0,1]) (`
example : (∀ c ∈ [Call.frag 0 1, .frag 0 1, .typePrim true 2 false, .quantBegin "i", .exprIdentifier "i", .frag 0 1, .frag 2 1, .quantEnd],
    Call.isExprCall c = true) ∧
    frameBal 0 [Call.frag 0 1, .frag 0 1, .typePrim true 2 false, .quantBegin "i", .exprIdentifier "i", .frag 0 1, .frag 2 1, .quantEnd] = some 0 := by
  decide
example : frameBal 0 [Call.frag 0 1, .frag 0 1, .typePrim true 2 false, .quantBegin "i", .handleError] = some 1 := by decide

/-- negation on the witness: edge with `select i`, faulty guard `forall (i : int[0,1]) (`, then the update label `i`:
    the identifier of the LATER label binds to the abandoned binder (symbol 1), not to the select variable (symbol 0),
    and after proc_edge_end the select frame of this edge is still on the stack for all later edges -/
def witnessState : BState :=
  run BState.init [.procBegin "P" true, .procLocation "A" false false, .procEdgeBegin "A" "A" true,
    .frag 0 1, .frag 0 1, .typePrim true 2 false, .procSelect "i"]

def faultyGuard : List Call := [.frag 0 1, .frag 0 1, .typePrim true 2 false, .quantBegin "i", .handleError]

theorem C16_witness_binding :
    ((run witnessState [.exprIdentifier "i"]).binds.head?.map (·.2)) ≠
    ((run witnessState (faultyGuard ++ [.exprIdentifier "i"])).binds.head?.map (·.2)) := by decide

theorem C16_witness_frames :
    (run witnessState (faultyGuard ++ [.procEdgeEnd])).frames.length = (run witnessState [.procEdgeEnd]).frames.length + 1 := by decide

/-- what the theorems above quantify over is what the grammar can emit: every callback of every production reachable from
    a label entry point (Expression, SyncExpr, ExprList, ExpRate) is an expression-level callback of the model, except the
    synchronisation label's own proc_sync (table regenerated from src/parser.y on every run) -/
theorem C16_label_callbacks_are_expression_level :
    (UtapModel.C16.labelCallbacks.filter (fun c => match UtapModel.C16.callOf c with
      | some cl => !cl.isExprCall
      | none => true)) = ["proc_sync"] :=
  (List.filter_congr fun c _ => by cases UtapModel.C16.callOf c <;> rfl).trans label_grammar.1

/-- the exception set computed from the generated grammar table and the model's own frame effects: productions
    reachable from a label entry point whose frame push (mid-rule action) and pop (final action) are separated by a
    nonterminal.  A change of parser.y or of the model that alters this list changes the finding keys. -/
theorem C16_exception_shapes : UtapModel.C16.exceptionShapes =
    ["expr_sum_begin", "expr_forall_begin", "expr_exists_begin", "expr_forall_dynamic_begin", "expr_exists_dynamic_begin",
     "expr_sum_dynamic_begin", "expr_foreach_dynamic_begin"] := label_grammar.2

/-- a label text that never reaches below its entry level leaves every older operand in place: the old expression
    stack is a suffix of the new one (left-overs of a faulted label sit above it and are inert for later labels,
    which index from the top) -/
theorem C16_fragments (t : List Call) (ht : ∀ c ∈ t, c.isExprCall = true) (s : BState) (d0 d : Nat) (pushed base : List Expr)
    (hs : pushed.length = d0) (hf : s.fragments = pushed ++ base) (hb : fragBal d0 t = some d) :
    ∃ pushed', pushed'.length = d ∧ (run s t).fragments = pushed' ++ base := by
  subst hs
  exact run_stack (·.fragments) Call.fragNeed fragBal (fun _ => rfl) (fun _ _ _ => rfl) (fun s c h _ => frag_effect s c h) t ht s d pushed base hf hb

theorem C16_fragments_suffix (t : List Call) (ht : ∀ c ∈ t, c.isExprCall = true) (s : BState) (d : Nat)
    (hb : fragBal 0 t = some d) : s.fragments <:+ (run s t).fragments := by
  obtain ⟨p, _, hr⟩ := C16_fragments t ht s 0 d [] s.fragments rfl (by simp) hb
  exact ⟨p, hr.symm⟩

example : fragBal 0 [Call.frag 0 1, .frag 0 1, .typePrim true 2 false, .quantBegin "i", .exprIdentifier "i", .handleError] = some 1 := by decide


/-- C16, declaration blocks: whatever callbacks follow (a faulted declaration, error recovery, anything), every variable and
    function declared so far stays in place, and its symbol keeps its name and its object -/
theorem C16_decl_prefix (s : BState) (cs : List Call) : Grows s (run s cs) :=
  run_inv (P := Grows s) (fun s' c h => h.trans (step_builds s' c).grows) cs s (Grows.refl s)


/- The declaration-block clause on the real library (truncation / token deletion inside declaration i keeps the
   declarations < i unchanged) is checked by checks/c16.py; `C16_decl_prefix` is its model-level counterpart. -/

end UtapModel.Builder
