/-
C16 (synchronisation styles) — what the model-wide check of `TypeChecker::visitEdge` reports, and on which labels.

The property asks that a fault in one label leaves every diagnostic inside that label.  A synchronisation that loses its `!` / `?` among
input/output synchronisations breaks a model-wide rule, and the theorems below say exactly where the implementation reports it: nowhere
while the styles agree; on the label where the styles first meet and on EVERY later synchronisation label; and, when the odd label is the
first one visited, only on the others.  The last two are the known finding `diag:sync:$CSP_and_IO_synchronisations_cannot_be_mixed`,
proved here as theorems about the state machine read from the source.
-/
import UtapModel.Lemmas.SyncUsed

namespace UtapModel.C16Sync
open UtapModel.SyncUsed

/-- **tie T**: the state machine of the current source is the one the theorems are about -/
theorem C16_sync_table : SyncUsedTbl.trans = pinned := by decide

/-- a document whose synchronisations are all input/output gets no mix diagnostic -/
theorem C16_sync_io_only (l : List SK) (h : ∀ k ∈ l, k.isIO = true) : diags SyncUsedTbl.trans 0 l = List.replicate l.length false := by
  rw [C16_sync_table]
  exact diags_enter pinned 0 1 l (fun k hk => (step_io k (h k hk)).1) (fun k hk => (step_io k (h k hk)).2)

/-- a document whose synchronisations are all CSP-style gets no mix diagnostic -/
theorem C16_sync_csp_only (n : Nat) : diags SyncUsedTbl.trans 0 (List.replicate n .csp) = List.replicate n false := by
  have hc : ∀ k ∈ List.replicate n SK.csp, step pinned 0 k = 2 ∧ step pinned 2 k = 2 := fun k hk => by
    rw [List.eq_of_mem_replicate hk]
    decide
  have h := diags_enter pinned 0 2 _ (fun k hk => (hc k hk).1) (fun k hk => (hc k hk).2)
  rwa [List.length_replicate, ← C16_sync_table] at h

/-- once the styles have met, EVERY later synchronisation label carries the diagnostic, whatever it is -/
theorem C16_sync_sticky (l : List SK) : diags SyncUsedTbl.trans (-1) l = List.replicate l.length true := by
  rw [C16_sync_table]
  exact diags_enter pinned (-1) (-1) l (fun k _ => step_mixed k) (fun k _ => step_mixed k)

/-- **where a lost direction is reported**: a CSP-style label after at least one input/output label is reported on that label -- and on
    every synchronisation label after it (fault-free blocks: the known finding) -/
theorem C16_sync_attribution (k : SK) (l1 l2 : List SK) (hk : k.isIO = true) (h1 : ∀ x ∈ l1, x.isIO = true) :
    diags SyncUsedTbl.trans 0 (k :: l1 ++ .csp :: l2) =
      List.replicate (l1.length + 1) false ++ true :: List.replicate l2.length true := by
  have hst := C16_sync_sticky l2
  rw [C16_sync_table] at hst ⊢
  -- 0 → 1 on `k`, 1 kept along `l1`, 1 → -1 on the CSP label, -1 kept along `l2`
  rw [List.cons_append, diags, (step_io k hk).1, diags_fixed pinned 1 l1 _ fun x hx => (step_io x (h1 x hx)).2,
    diags, show step pinned 1 .csp = -1 by decide, hst]
  rfl

/-- ... and when the label that lost its direction is the first synchronisation visited, it carries NO diagnostic: the others do -/
theorem C16_sync_first_label_witness :
    diags SyncUsedTbl.trans 0 [.csp, .bang, .que] = [false, true, true] ∧ diags SyncUsedTbl.trans 0 [.bang, .csp, .que] = [false, true, true] := by
  decide

end UtapModel.C16Sync
