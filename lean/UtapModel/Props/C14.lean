/- Property C14 -- typing of commutative operators and inline-if is symmetric in its operands; reference-parameter
   equivalence is symmetric.

   Every theorem is about the rules regenerated from the *current* src/typechecker.cpp + include/utap/type.h
   (UtapModel/Gen/TypeClauses.lean) and quantifies over ALL types `Ty` (arbitrary nesting of prefixes, REF, LABEL,
   RANGE, ARRAY, RECORD), i.e. over all operand expressions through their types.  No bound.

   On the unchanged tree two obligations fail (Lemmas `body_W2`: `isSameScalarType` tests kind `EF` instead of `REF`
   for its second operand; `iifCompat_self` and with it `iif_core`: `areInlineIfCompatible` tests `t1` twice) -- see
   proposed_fixes/C14-*.diff.
   With both one-token fixes everything below holds; the only remaining deviation from the property's text is the
   computed set `kindExceptions` (two different *integral* result kinds, e.g. `b ? 1 : true` has type int while
   `!b ? true : 1` has type bool) -- `inlineIf_kind_symm_partial` excludes exactly that set and
   `exactKindExceptions_spec` shows that every pair the rules produce on primitive branch types is a real asymmetry. -/
import UtapModel.Lemmas.C14
namespace UtapModel.C14
open UtapModel.Types UtapModel.TypeClauses UtapModel.TypeBasics

/-- the operators the property lists: + * == != && || & | ^ <? >? -/
def commutativeOps : List BinOp := [.PLUS, .MULT, .EQ, .NEQ, .AND, .OR, .BIT_AND, .BIT_OR, .BIT_XOR, .MIN, .MAX]

/-- scalar-set name equivalence is symmetric (fails on the unfixed tree: F-C14-2) -/
theorem isSameScalarType_symm (t1 t2 : Ty) : isSameScalarType t1 t2 = isSameScalarType t2 t1 :=
  UtapModel.C14.isSameScalarType_symm' t1 t2

/-- `TypeChecker::areEquivalent` is symmetric -/
theorem areEquivalent_symm (a b : Ty) : areEquivalent a b = areEquivalent b a := areEquivalent_symm' a b

/-- `TypeChecker::areEqCompatible` is symmetric -/
theorem areEqCompatible_symm (a b : Ty) : areEqCompatible a b = areEqCompatible b a := areEqCompatible_symm' a b

/-- FULL STRENGTH: for every listed operator and all operand types, swapping the operands changes neither whether the
    expression is accepted (`none` = a diagnostic) nor its result type -/
theorem typeBin_symm (op : BinOp) (h : op ∈ commutativeOps) (a b : Ty) : typeBin op a b = typeBin op b a := by
  simp only [commutativeOps, List.mem_cons, List.not_mem_nil, or_false] at h
  -- the clause list of each listed operator reads the same with the operands exchanged, up to the order of the
  -- operands of `&&` and `||` and of neighbouring clauses with the same result; `areEqCompatible` is symmetric
  rcases h with rfl | rfl | rfl | rfl | rfl | rfl | rfl | rfl | rfl | rfl | rfl <;>
  simp only [typeBin, binCase_PLUS, binCase_MULT, binCase_EQ, binCase_NEQ, binCase_AND, binCase_OR, binCase_MOD,
    areEqCompatible_symm' b a, ite_ite_same, Bool.and_comm, Bool.or_comm, Bool.or_left_comm, Bool.or_assoc]

/-- in particular on primitive operand types (11 operators x 39 x 39 kinds) -/
theorem typeBin_symm_prims : ∀ op ∈ commutativeOps, ∀ ka kb : TK,
    typeBin op (.prim ka) (.prim kb) = typeBin op (.prim kb) (.prim ka) :=
  fun op h _ _ => typeBin_symm op h _ _

example : BinOp.PLUS ∈ commutativeOps := by decide

/-- `c` is acceptable as the condition of an inline-if (observed through the generated rule itself) -/
def condOk (c : Ty) : Bool := (inlineIf c (.prim .INT) (.prim .INT)).isSome

theorem condOk_eq (c : Ty) : condOk c = (h_is_integral c || h_is_guard c) := by
  simp only [condOk, inlineIf_eq]
  cases h : (h_is_integral c || h_is_guard c) <;> simp <;> decide

/-- observation of a verdict: `none` = rejected, `some k` = accepted with a result type of terminal kind `k` -/
abbrev verdict (r : Option Ty) : Option TK := obs r

/-- Swapping the branches of an inline-if (with any condition of the same acceptability, in particular the negated
    one) gives verdicts that `agree`: both rejected, or both accepted with the same result kind, or both accepted with
    a pair of kinds in `kindExceptions`. -/
theorem inlineIf_symm (c c' a b : Ty) (hc : condOk c = condOk c') :
    agree (verdict (inlineIf c a b)) (verdict (inlineIf c' b a)) = true := by
  rw [condOk_eq, condOk_eq] at hc
  simp only [verdict, inlineIf_eq, hc]
  cases (h_is_integral c' || h_is_guard c')
  · rfl
  · exact iif_core a b

example (c : Ty) : condOk c = condOk c := rfl

/-- FULL STRENGTH (acceptance): swapping the branches never changes whether the inline-if is accepted
    (fails on the unfixed tree: F-C14-1) -/
theorem inlineIf_accept_symm (c c' a b : Ty) (hc : condOk c = condOk c') :
    (inlineIf c a b).isSome = (inlineIf c' b a).isSome := by
  have h := inlineIf_symm c c' a b hc
  cases h1 : inlineIf c a b <;> cases h2 : inlineIf c' b a <;> simp_all [agree, obs]

/-- PARTIAL (result kind): outside the computed exception set the result kinds are equal.
    Full statement `verdict (inlineIf c a b) = verdict (inlineIf c' b a)` is false of the unchanged rules:
    see `exactKindExceptions_spec`. -/
theorem inlineIf_kind_symm_partial (c c' a b : Ty) (hc : condOk c = condOk c') (ra rb : Ty)
    (h1 : inlineIf c a b = some ra) (h2 : inlineIf c' b a = some rb)
    (hex : (ra.term, rb.term) ∉ kindExceptions) : ra.term = rb.term := by
  have h := inlineIf_symm c c' a b hc
  simp only [verdict, h1, h2, obs, Option.map, agree, Bool.or_eq_true, beq_iff_eq, Option.some.injEq] at h
  rcases h with h | h
  · exact h
  · exact absurd (List.contains_iff_mem.mp h) hex

/-- the exception set is exactly: two different integral kinds -/
theorem kindExceptions_spec : ∀ k1 k2 : TK,
    ((k1, k2) ∈ kindExceptions) ↔ (ty_is_integral (.prim k1) = true ∧ ty_is_integral (.prim k2) = true ∧ k1 ≠ k2) := by
  intro k1 k2
  simp only [kindExceptions, List.mem_flatMap, List.mem_map, List.mem_filter, TK.mem_all, true_and, Prod.mk.injEq, intK,
    bne_iff_ne]
  constructor
  · rintro ⟨_, h1, _, ⟨h2, hne⟩, rfl, rfl⟩; exact ⟨h1, h2, hne.symm⟩
  · rintro ⟨h1, h2, hne⟩; exact ⟨k1, h1, k2, ⟨h2, hne.symm⟩, rfl, rfl⟩

example : ∀ k : TK, (k, k) ∉ kindExceptions := by decide +kernel

/-- the exact exception set (what the rules really do on primitive branch types) lies inside `kindExceptions`, and
    every member of it is a real asymmetry of the rules: both orders accepted, different result kinds.
    On the unchanged tree it is {(INT,BOOL), (BOOL,INT)} and pairs with the integral kinds PROCESS_VAR / LOCATION /
    LOCATION_EXPR: `b ? 1 : true` is typed int, `!b ? true : 1` is typed bool. -/
theorem exactKindExceptions_spec : ∀ e ∈ exactKindExceptions, e ∈ kindExceptions ∧
    ∃ ka kb : TK, verdict (inlineIf (.prim .BOOL) (.prim ka) (.prim kb)) = some e.1 ∧
                  verdict (inlineIf (.prim .BOOL) (.prim kb) (.prim ka)) = some e.2 ∧ e.1 ≠ e.2 := by
  intro e he
  -- a member records two accepted verdicts with different kinds; `inlineIf_symm` puts such a pair in `kindExceptions`
  simp only [exactKindExceptions, List.mem_flatMap, List.mem_filterMap, TK.mem_all, true_and] at he
  obtain ⟨ka, kb, h⟩ := he
  split at h
  · rename_i r1 r2 h1 h2
    split at h
    · rename_i hne
      cases h
      have hs := inlineIf_symm (.prim .BOOL) (.prim .BOOL) (.prim ka) (.prim kb) rfl
      simp only [verdict, h1, h2, agree, Bool.or_eq_true, beq_iff_eq, Option.some.injEq] at hs
      rw [bne_iff_ne] at hne
      exact ⟨List.contains_iff_mem.mp (hs.resolve_left hne), ka, kb, h1, h2, hne⟩
    · cases h
  · cases h

/-- the negated condition: for an integral condition `c`, `!c` is typed (BOOL) and is an acceptable condition, so
    `c ? a : b` and `!c ? b : a` agree -/
theorem inlineIf_negated_cond (c a b : Ty) (hc : ty_is_integral c = true) :
    ∃ nc, typeUn .NOT c = some nc ∧ agree (verdict (inlineIf c a b)) (verdict (inlineIf nc b a)) = true := by
  refine ⟨.prim .BOOL, ?_, ?_⟩
  · unfold_type_cases; simp [h_is_integral, hc, Ty.isUnknown, Ty.kind]
  · apply inlineIf_symm
    rw [condOk_eq, condOk_eq]
    simp [h_is_integral, hc]
    decide

/-! ### `==` and `!=` in the observations of a partially observable game query

`{ observations } control: goal` restricts the clock comparisons it may contain (`TypeChecker::checkObservationConstraints`, run by
`visitProperty` over the whole query).  The two tests are regenerated from the source as `obsInvalid` and `obsDifference`. -/

/-- FULL STRENGTH: whether `a == b` / `a != b` is rejected as an observation does not depend on the order of its operands -/
theorem obsRejected_symm (k : BinOp) (hk : k = .EQ ∨ k = .NEQ) (a b : Ty) : obsRejected k a b = obsRejected k b a := by
  rcases hk with rfl | rfl <;>
  simp only [obsRejected, obsInvalid, obsDifference, Bool.and_comm, Bool.or_comm, Bool.or_left_comm, Bool.or_assoc]

/-- together with the typing rule: the verdict on `{ a == b } control: ..` is that on `{ b == a } control: ..` -/
theorem observation_verdict_symm (k : BinOp) (hk : k = .EQ ∨ k = .NEQ) (a b : Ty) :
    ((typeBin k a b).isNone || obsRejected k a b) = ((typeBin k b a).isNone || obsRejected k b a) := by
  have hmem : k ∈ commutativeOps := by rcases hk with rfl | rfl <;> decide
  rw [typeBin_symm k hmem a b, obsRejected_symm k hk a b]

/-- a modifiable lvalue argument is accepted for a (const) reference parameter of non-channel type exactly when
    `areEquivalent` holds, in whichever order the two types are given -/
theorem refParam_iff_equivalent (p a : Ty) (href : p.is .REF = true)
    (hch : (ty_is_channel p && ty_is_channel a) = false) :
    isParameterCompatible p a true = areEquivalent a p ∧ isParameterCompatible p a true = areEquivalent p a := by
  have : isParameterCompatible p a true = areEquivalent a p := by
    simp [isParameterCompatible, href, hch]
  exact ⟨this, by rw [this, areEquivalent_symm]⟩

example : (Ty.ref (.prim .INT)).is .REF = true ∧
    (ty_is_channel (Ty.ref (.prim .INT)) && ty_is_channel (.prim .INT)) = false := by decide

/-! ### "whichever of the two carries the reference or const wrapper"

`wfTy` only excludes type trees that `type_t` cannot build (a childless node of kind REF / LABEL / RANGE / ARRAY / RECORD
or of a prefix kind); for those the C++ accessors would read past a node. -/

/-- the fuel the recursive rules are run with is adequate: more fuel never changes the answer -/
theorem areEquivalent_fuel_adequate (a b : Ty) (wa : wfTy a = true) (wb : wfTy b = true) (m : Nat)
    (hm : a.size + b.size ≤ m) : areEquivalentF m a b = areEquivalent a b :=
  (aeF_adequate _ m a b wa wb (Nat.le_refl _) hm).symm

theorem isSameScalarType_fuel_adequate (a b : Ty) (wa : wfTy a = true) (wb : wfTy b = true) (m : Nat)
    (hm : a.size + b.size ≤ m) : isSameScalarTypeF m a b = isSameScalarType a b :=
  (sstF_adequate _ m a b wa wb (Nat.le_refl _) hm).symm

/-- a REF wrapper on either side does not change equivalence (fails on the unfixed tree: F-C14-2) -/
theorem areEquivalent_ref (a b : Ty) (wa : wfTy a = true) (wb : wfTy b = true) :
    areEquivalent (.ref a) b = areEquivalent a b ∧ areEquivalent a (.ref b) = areEquivalent a b := by
  refine ⟨areEquivalent_ref_left a b wa wb, ?_⟩
  rw [areEquivalent_symm a (.ref b), areEquivalent_ref_left b a wb wa, areEquivalent_symm]

theorem areEquivalent_const (a b : Ty) (wa : wfTy a = true) (wb : wfTy b = true) :
    areEquivalent (.pfx .CONSTANT a) b = areEquivalent a b ∧ areEquivalent a (.pfx .CONSTANT b) = areEquivalent a b := by
  refine ⟨areEquivalent_const_left a b wa wb, ?_⟩
  rw [areEquivalent_symm a (.pfx .CONSTANT b), areEquivalent_const_left b a wb wa, areEquivalent_symm]

example : wfTy (.ref (.pfx .CONSTANT (.label 7 (.label 8 (.range (.prim .SCALAR) 1 2))))) = true ∧
    wfTy (.array (.record (.cons 1 (.prim .INT) (.cons 2 (.prim .BOOL) .nil))) (.range (.prim .INT) 1 2)) = true := by decide

/-- FULL STRENGTH (reference parameters): a modifiable lvalue of type `a` is accepted for a parameter `T &p` or
    `const T &p` (non-channel) exactly when `a` and `T` are equivalent -- the same verdict as for the unwrapped types in
    either order, i.e. it does not matter which of the two carries the reference or const wrapper -/
theorem refParam_symm (t a : Ty) (wt : wfTy t = true) (wa : wfTy a = true)
    (hch : (ty_is_channel t && ty_is_channel a) = false) :
    isParameterCompatible (.ref t) a true = areEquivalent t a ∧
    isParameterCompatible (.ref (.pfx .CONSTANT t)) a true = areEquivalent t a ∧
    isParameterCompatible (.ref a) t true = areEquivalent t a := by
  -- `is CHANNEL` looks through REF and CONSTANT (by computation), and so does `wfTy`
  have h1 : (ty_is_channel (.ref t) && ty_is_channel a) = false := hch
  have h2 : (ty_is_channel (.ref (.pfx .CONSTANT t)) && ty_is_channel a) = false := hch
  have h3 : (ty_is_channel (.ref a) && ty_is_channel t) = false := (Bool.and_comm _ _).trans hch
  have wc : wfTy (.pfx .CONSTANT t) = true := wt
  refine ⟨?_, ?_, ?_⟩
  · rw [(refParam_iff_equivalent (.ref t) a rfl h1).2, (areEquivalent_ref t a wt wa).1]
  · rw [(refParam_iff_equivalent (.ref (.pfx .CONSTANT t)) a rfl h2).2,
        (areEquivalent_ref (.pfx .CONSTANT t) a wc wa).1, (areEquivalent_const t a wt wa).1]
  · rw [(refParam_iff_equivalent (.ref a) t rfl h3).1, (areEquivalent_ref t a wt wa).2]

end UtapModel.C14
