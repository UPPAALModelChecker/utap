/-
C15 — a parse result depends only on its input, not on earlier parses in the process.

The process-global state is `Globals` (Model/Globals.lean).  What a call can inherit from earlier calls:

  * `tracker.position` — never reset.  (shift) below 2^32 the position machinery is translation invariant: every settled
    position of a block resolves to the same (path, line, column) whatever the starting value of the counter and whatever
    earlier blocks the document's table holds, and no exception is raised.  At 2^32 it is not: (wrap witness).
  * `ch`, `syntax`, `syntax_token`, `tracker.line/offset/path` — (reinit) overwritten by every call before parsing.
  * flex's start condition — (yyStart) back to INITIAL whenever the scanner runs to the end of its input.
  * `rootTransId`, `types` — (written first) every read is preceded by a write of the same parse.
  * `yylloc` — (eof location) used by a call only when its text has no lexeme at all; then it is stale: exception shape
    `history:empty-input-location` unless parse_XTA initialises it (`ParseGlobalsGen.yyllocInit`).
-/
import UtapModel.Model.Globals
import UtapModel.Props.C06

namespace UtapModel.C15
open UtapModel.Pos UtapModel.LexLines UtapModel.Loc UtapModel.Globals UtapModel.C06

/-- **C15_shift**: the same block (any honest lexeme sequence) scanned from two different counter values `p0`, `p0'` into two
    different documents (`idx0`, `idx0'` are whatever earlier blocks put into the tables): as long as neither run reaches
    2^32, neither throws, and every settled position of the block resolves to the same path, line and column in both. -/
theorem C15_shift (idx0 idx0' : Index) (p0 p0' : Nat) (path : String) (hm : Monotone idx0) (hm' : Monotone idx0')
    (hlt : ∀ l, idx0.getLast? = some l → l.position ≤ p0 + 1) (hlt' : ∀ l, idx0'.getLast? = some l → l.position ≤ p0' + 1)
    (ls : List Lexeme) (hon : ∀ lx ∈ ls, Honest lx)
    (hfit : p0 + 1 + (flat ls).length < W) (hfit' : p0' + 1 + (flat ls).length < W)
    (a : List Lexeme) (lx : Lexeme) (b : List Lexeme) (u v : List Char)
    (hsplit : ls = a ++ lx :: b) (hchars : lx.chars = u ++ v) (hu : noNl u) :
    ∃ s s', runLexemes (blockStart idx0 p0 path) ls = .ok s ∧ runLexemes (blockStart idx0' p0' path) ls = .ok s' ∧
      resolve s.idx (p0 + 1 + (flat a).length + u.length) = resolve s'.idx (p0' + 1 + (flat a).length + u.length) := by
  obtain ⟨s, hrun, hres⟩ := C06_linecol_lexemes idx0 p0 path hm hlt ls hon hfit a lx b u v hsplit hchars hu
  obtain ⟨s', hrun', hres'⟩ := C06_linecol_lexemes idx0' p0' path hm' hlt' ls hon hfit' a lx b u v hsplit hchars hu
  exact ⟨s, s', hrun, hrun', by rw [hres, hres']⟩

/-- the hypotheses of `C15_shift` are satisfiable: the lexemes of the multi-line example text of C06 are honest -/
example : ∀ lx ∈ (lexAll LexRulesGen.rules .initial exampleText).1, Honest lx := by
  have hno : ∀ lx ∈ (lexAll LexRulesGen.rules .initial exampleText).1, lx.rule.pat ≠ .str := by decide +kernel
  exact fun lx hlx => lexAll_honest tie_rules_faithful .initial exampleText lx hlx fun h => absurd h (hno lx hlx)

/-- the same for the lexemes of a text under today's rule table: a history that has consumed `p0` characters and a fresh
    process (`p0' = 0`, empty table) report every diagnostic end of the block identically -/
theorem C15_shift_text (idx0 : Index) (p0 : Nat) (path : String) (hm : Monotone idx0)
    (hlt : ∀ l, idx0.getLast? = some l → l.position ≤ p0 + 1) (text : List Char)
    (hstr : NoNewlineInStringLiteral (lexAll LexRulesGen.rules .initial text).1)
    (hfit : p0 + 1 + text.length < W)
    (a : List Lexeme) (lx : Lexeme) (b : List Lexeme) (u v : List Char)
    (hsplit : (lexAll LexRulesGen.rules .initial text).1 = a ++ lx :: b) (hchars : lx.chars = u ++ v) (hu : noNl u) :
    ∃ s s', runLexemes (blockStart idx0 p0 path) (lexAll LexRulesGen.rules .initial text).1 = .ok s ∧
      runLexemes (blockStart [] 0 path) (lexAll LexRulesGen.rules .initial text).1 = .ok s' ∧
      resolve s.idx (p0 + 1 + (flat a ++ u).length) = resolve s'.idx (0 + 1 + (flat a ++ u).length) := by
  obtain ⟨_, s, hrun, hres⟩ := C06_linecol idx0 p0 path hm hlt text hstr hfit a lx b u v hsplit hchars hu
  obtain ⟨_, s', hrun', hres'⟩ := C06_linecol [] 0 path trivial (by intro l h; simp at h) text hstr (by omega) a lx b u v hsplit hchars hu
  exact ⟨s, s', hrun, hrun', by rw [hres, hres']⟩

def wrapText : List Char := "/*\n\n\n".toList

/-- what a run reports: `none` = completed, `some mode` = `std::logic_error("Positions must be monotonically increasing")`
    escaped while flex was in start condition `mode` -/
def throwsIn (p0 : Nat) (text : List Char) : Option Mode :=
  match runLexemesMode (blockStart [] p0 "/p") .initial (lexAll LexRulesGen.rules .initial text).1 with
  | .ok _ => none
  | .error (_, m) => some m

/-- **C15_wrap_witness** (exception shape `history:position>=2^32`): with the counter three characters below 2^32 the text
    `/*⏎⏎⏎` makes `position_index_t::add` throw inside the comment (the counter has wrapped, the new entry lies below the
    last one) and flex stays in the `comment` start condition; from a fresh counter the same text scans without exception.
    A later call then scans its whole text as a comment: `x@` produces no `$Unknown_symbol`, which it does from INITIAL. -/
theorem C15_wrap_witness :
    throwsIn (W - 3) wrapText = some Mode.comment ∧ throwsIn 0 wrapText = none ∧
    ((lexAll LexRulesGen.rules .comment "x@".toList).1.all (fun lx => lx.rule.err == LexErr.none)) = true ∧
    ((lexAll LexRulesGen.rules .initial "x@".toList).1.any (fun lx => lx.rule.err == LexErr.always "$Unknown_symbol")) = true := by
  decide +kernel

def EofRestores (rules : List Rule) : Bool :=
  [Mode.initial, Mode.comment].all fun m => eofMode rules m == Mode.initial

/-- the `<<EOF>>` rule of every start condition of today's lexer.l leaves the scanner in INITIAL -/
theorem tie_eof_restores : EofRestores LexRulesGen.rules = true := by decide +kernel

/-- **C15_yyStart_restored**: whenever the scanner runs to the end of its text — which it does unless an exception escapes
    from a lexer action — flex is back in INITIAL, whatever the text (unterminated comments included) and whatever start
    condition the call began in. -/
theorem C15_yyStart_restored (mode : Mode) (text : List Char) :
    (lexAll LexRulesGen.rules mode text).2 = Mode.initial := by
  obtain ⟨m, hm⟩ := (lexAllF_covering tie_rules_covering _ mode text (Nat.lt_succ_self _)).2
  rw [lexAll, hm]
  exact beq_iff_eq.mp (List.all_eq_true.mp tie_eof_restores m m.mem_all)

example : (lexAll LexRulesGen.rules .initial "int a; /* never closed\n".toList).2 = Mode.initial := C15_yyStart_restored _ _

/-- every part of `xta_part_t` has a case in `setStartToken`, so `syntax_token` never survives from an earlier call -/
theorem tie_start_token_total : ∀ p ∈ ParseGlobalsGen.parts, ∀ nx, (startToken p nx).isSome = true := by decide +kernel

/-- **C15_reinit**: after the per-call initialisation the builder, the syntax mode, the pending start token and the tracker's
    line / offset / path are functions of the call alone; of the whole state only `tracker.position`, the flex start
    condition, `rootTransId`, `types` (and `yylloc` unless it is initialised) are inherited. -/
theorem C15_reinit (init : Bool) (g₁ g₂ : Globals) (c : Call) (hp : c.property = true ∨ c.part ∈ ParseGlobalsGen.parts) :
    (enter init g₁ c).ch = (enter init g₂ c).ch ∧ (enter init g₁ c).syntaxMode = (enter init g₂ c).syntaxMode ∧
    (enter init g₁ c).syntaxToken = (enter init g₂ c).syntaxToken ∧
    (enter init g₁ c).tracker.line = (enter init g₂ c).tracker.line ∧
    (enter init g₁ c).tracker.offset = (enter init g₂ c).tracker.offset ∧
    (enter init g₁ c).tracker.path = (enter init g₂ c).tracker.path := by
  -- the only field read from the old state is `syntaxToken`, and only when `setStartToken` has no case for the part
  obtain ⟨t, ht⟩ : ∃ t, startToken (if c.property then "S_PROPERTY" else c.part)
      (if c.property then false else c.newxta) = some t := by
    cases hprop : c.property with
    | true => exact ⟨_, (by decide +kernel : startToken "S_PROPERTY" false = some "T_PROPERTY")⟩
    | false =>
      exact Option.isSome_iff_exists.mp
        (tie_start_token_total c.part (hp.resolve_left (by rw [hprop]; decide)) c.newxta)
  cases init <;> simp only [enter, ht] <;> exact ⟨rfl, rfl, rfl, rfl, rfl, rfl⟩

/-- the accesses recognised in parser.y: `rootTransId` is read only by the short transition forms and written by the full
    ones, `types` is written by `ArrayDecl` and read only below it -/
theorem tie_accesses : ∀ a ∈ ParseGlobalsGen.accesses,
    (a.2.1 = "rootTransId" → (a.2.2 = "read" → a.1 = "TransitionOpt" ∨ a.1 = "OldTransitionOpt") ∧
                              (a.2.2 = "write" → a.1 = "Transition" ∨ a.1 = "OldTransition")) ∧
    (a.2.1 = "types" → (a.2.2 = "read" → a.1 = "ArrayDecl2") ∧ (a.2.2 = "write" → a.1 = "ArrayDecl")) := by decide +kernel

/-- **C15_rootTransId_written_first**: in every transition list (`TransitionList : Transition | TransitionList ',' TransitionOpt`,
    the shape the translator checks) the first access of `rootTransId` is the write of the leading full transition, so the
    short forms never see a value left by an earlier parse. -/
theorem C15_rootTransId_written_first (rest : List TransOpt) : WrittenFirst (transListAccesses rest) := rfl

/-- **C15_types_written_first**: `ArrayDecl : { types = 0; } ArrayDecl2` resets the counter before any `ArrayDecl2` uses it. -/
theorem C15_types_written_first (dims : Nat) : WrittenFirst (arrayDeclAccesses dims) := rfl

/-- **C15_eof_location_partial**: the location of a syntax error at the end of a text with at least one lexeme (blanks,
    comments and newlines count) is the last lexeme's range — the same for every history (up to the shift of the counter,
    which `C15_shift` takes care of).  *Partial*: for a text without any lexeme (the empty string) the location is the
    inherited `yylloc` unless `parse_XTA` initialises it; the full statement
    `∀ ls, (eofErrorRange g₁ ls) = (eofErrorRange g₂ ls)` is false, see the witness below. -/
theorem C15_eof_location_partial (g₁ g₂ : Globals) (ls : List Lexeme) (hne : ls ≠ [])
    (hpos : g₁.tracker.position = g₂.tracker.position) : eofErrorRange g₁ ls = eofErrorRange g₂ ls := by
  cases ls with
  | nil => exact absurd rfl hne
  | cons lx rest => simp only [eofErrorRange, yyllocAfter, hpos, tokenRanges, List.getLast?_cons, Option.getD_some]

/-- with the initialisation `yylloc.start = yylloc.end = tracker.position` in parse_XTA / parseProperty (the repair of the
    finding; `ParseGlobalsGen.yyllocInit` records whether the source has it) the empty text is covered too -/
theorem C15_eof_location_with_init (g₁ g₂ : Globals) (c : Call) (ls : List Lexeme)
    (hpos : g₁.tracker.position = g₂.tracker.position) :
    eofErrorRange (enter true g₁ c) ls = eofErrorRange (enter true g₂ c) ls := by
  simp [eofErrorRange, yyllocAfter, enter, Tracker.setPath, hpos]

/-- **exception shape `history:empty-input-location`**: two histories that differ only in the last token of the previous
    parse report the syntax error of an empty text at different places -/
theorem C15_eof_location_witness :
    let g₁ : Globals := { (default : Globals) with yylloc := ⟨2147483647, 2147483647⟩ }   -- fresh process: position_t()
    let g₂ : Globals := { (default : Globals) with yylloc := ⟨12, 13⟩ }                   -- after an earlier parse
    let c : Call := { builder := 1, newxta := true, part := "S_PARAMETERS", xpath := "/p", property := false }
    eofErrorRange (enter false g₁ c) [] ≠ eofErrorRange (enter false g₂ c) [] := by
  decide

end UtapModel.C15
