/- Property C10 -- only convex clock constraints are accepted as guards and invariants.

   Formula language (UtapModel/Model/Formula.lean): leaves = integer predicates, clock bounds `x ~ n`, `n ~ x`,
   clock-difference bounds `x - y ~ n`, `n ~ x - y`, `x ~ y` for ~ ∈ < <= == != >= > (n an integer expression);
   connectives && || ! imply xor == != forall exists (`a imply b` = OR(NOT a, b) as the parser builds it).
   `classify` runs the clause lists regenerated from the *current* src/typechecker.cpp; `acceptsAsGuard` /
   `acceptsAsInvariant` add the tests of visitEdge / visitLocation (also regenerated).  All theorems rest on structural
   inductions over formula trees of ANY depth (`classify_sound`, `conj_complete`); the per-operator facts
   those consume are complete finite tables over the 39 type kinds, evaluated by the kernel (all in Lemmas/C10.lean).

   Exception set: `leafExceptions` (computed from the regenerated rules) lists the leaf shapes that contain a clock but
   are typed integral.  On the unchanged tree it is [(NEQ, CLOCK, CLOCK)]: `x != y` is typed BOOL because the NEQ case
   asks areEqCompatible *before* its clock clause (EQ does it the other way round), so `x != y || y != z` is accepted
   as a guard (with proposed_fixes/C10-neq-clock.diff, which /repo has, the set is empty).  `leafExceptions_are_violations`
   proves that every member of the set is a genuine violation of the property in the model; the check replays each on
   the real library.  The soundness theorems hold for every formula that avoids these leaves; when the set is empty
   they are the full property. -/
import UtapModel.Lemmas.C10
namespace UtapModel.C10
open UtapModel.Types UtapModel.TypeClauses UtapModel.Formula
/-- KEY LEMMA: a formula the checker types as an integral contains no clock comparison -/
theorem C10_integral_clockfree (f : Form) (hwf : WF f = true) (hne : noExcLeaf f = true) (k : TK)
    (hk : classify f = some k) (hi : ty_is_integral (.prim k) = true) : ClockFree f = true :=
  (classify_sound f hwf hne k hk).2.1 hi

/-- every formula accepted as an edge guard is convex, and each of its clock atoms is accepted as a guard on its own
    (so e.g. no `x != n` hides inside an accepted guard) -/
theorem C10_guard_sound (f : Form) (hwf : WF f = true) (hne : noExcLeaf f = true)
    (h : acceptsAsGuard f = true) : Convex f = true ∧ clockLeavesAll acceptsAsGuard f = true :=
  accepts_sound false f hwf hne h

/-- every formula accepted as a location invariant is convex, and each of its clock atoms is accepted as an invariant
    on its own -/
theorem C10_invariant_sound (f : Form) (hwf : WF f = true) (hne : noExcLeaf f = true)
    (h : acceptsAsInvariant f = true) : Convex f = true ∧ clockLeavesAll acceptsAsInvariant f = true :=
  accepts_sound true f hwf hne h

/-- the hypotheses are satisfiable by a non-trivial accepted formula: (x < n && x <= m) && b -/
example : let f := Form.and (.and (.cmp .LT .CLOCK .INT) (.cmp .LE .CLOCK .INT)) (.ipred .BOOL)
    WF f = true ∧ noExcLeaf f = true ∧ acceptsAsGuard f = true ∧ acceptsAsInvariant f = true := by decide

/-- the non-convex shapes the statement lists are rejected (model level; the check replays them on the library):
    disjunction, negation, implication antecedent, existential quantification, equality, exclusive-or over clock bounds -/
theorem C10_listed_shapes_rejected :
    let c := Form.cmp .LT .CLOCK .INT
    let d := Form.cmp .GE .CLOCK .INT
    ∀ f ∈ [Form.or c d, .not c, .imply c d, .ex c, .eq c d, .neq c d, .xor c d, .or (.not c) d, .and (.or c d) c],
      acceptsAsGuard f = false ∧ acceptsAsInvariant f = false := by decide

/-- Conversely: every plain conjunction (any `&&`-tree) of atoms that are accepted as guards is accepted as a guard -/
theorem C10_conj_complete_guard (f : Form) (h : conjOf acceptsAsGuard f = true) : acceptsAsGuard f = true :=
  conj_complete false f h

/-- ... and every plain conjunction of atoms accepted as invariants is accepted as an invariant -/
theorem C10_conj_complete_invariant (f : Form) (h : conjOf acceptsAsInvariant f = true) : acceptsAsInvariant f = true :=
  conj_complete true f h

example : conjOf acceptsAsGuard (.and (.and (.cmp .LT .CLOCK .INT) (.cmp .LE .CLOCK .INT)) (.ipred .BOOL)) = true := by decide
example : conjOf acceptsAsInvariant (.and (.cmp .LE .CLOCK .INT) (.and (.ipred .BOOL) (.cmp .LT .CLOCK .INT))) = true := by decide

/-- every member of the computed exception set is a genuine violation of C10 in the model: the leaf contains a clock,
    and the disjunction / negation of it is accepted as a guard and as an invariant although it is not convex -/
theorem leafExceptions_are_violations : ∀ e ∈ leafExceptions,
    let a := Form.cmp e.1 e.2.1 e.2.2
    WF a = true ∧ ClockFree a = false ∧
    acceptsAsGuard (.or a a) = true ∧ acceptsAsInvariant (.or a a) = true ∧ Convex (.or a a) = false ∧
    acceptsAsGuard (.not a) = true ∧ Convex (.not a) = false := by
  decide +kernel

/-- the typing of results never leaves the primitive types: keeping only the kind in `classify` loses nothing -/
theorem typeBin_result_prim (op : BinOp) : ∀ ka kb : TK, ∀ t ∈ typeBin op (.prim ka) (.prim kb), t = .prim t.term :=
  fun _ _ => typeBin_result op _ _

end UtapModel.C10
