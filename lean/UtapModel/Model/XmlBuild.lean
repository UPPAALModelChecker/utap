/- Model of the `ParserBuilder` callbacks that build the structure of a document
   (src/DocumentBuilder.cpp `proc_*`, `instantiation_*`, `process`; src/document.cpp `add_location`, `add_edge`,
   `add_instance`, `add_process`), as a state machine over the callback sequence.  Core Lean only. -/
import UtapModel.Model.AModel
namespace UtapModel.AM

/-- the callback sequence (the line protocol between the two front ends and the builder).  `pushExpr k` stands for the
    callbacks of parsing one expression text `k` (net effect: one more entry on the expression stack); `declItem` and
    `declParam` for those of one declaration / one parameter. -/
inductive Call
  | declItem (d : Decl)
  | declParam (p : Param)
  | pushExpr (k : Key)
  | procBegin (name : String)
  | procLocation (name : String) (hasInv hasER : Bool)
  | procLocationCommit (name : String)
  | procLocationUrgent (name : String)
  | procBranchpoint (name : String)
  | procLocationInit (name : String)
  | procEdgeBegin (src dst : String) (ctrl : Bool)
  | procSelect (id : String) (ty : Key)
  | procGuard
  | procSync (d : Dir)
  | procUpdate
  | procProb
  | procEdgeEnd (src dst : String)
  | procEnd
  | instBegin (name : String) (nparams : Nat) (templ : String)
  | instEnd (name : String) (nparams : Nat) (templ : String) (nargs : Nat)
  | process (name : String)
  | priorityInc
  | processListEnd
  | done
  | error (msg : String)            -- a diagnostic raised by the front end itself (handle_error)
  deriving DecidableEq, Repr, Inhabited

structure BState where
  doc : Doc := {}
  frags : List Key := []             -- expression stack, top first
  params : List Param := []          -- parameters collected by decl_parameter since the last consumer
  pending : List Param := []         -- parameters of the instantiation being parsed (its frame)
  cur : Option BTempl := none        -- currentTemplate
  edge : Option BEdge := none        -- currentEdge (between proc_edge_begin and proc_edge_end)
  prio : Nat := 0                    -- currentProcPriority
  errs : List String := []
  deriving DecidableEq, Repr, Inhabited

inductive SymKind | loc | bp | other
  deriving DecidableEq, Repr

/-- `resolve(name)` in the frame of the current template.  Symbols are added in the order parameters, local
    declarations, locations, branchpoints and the most recent one wins (frame_t::add_symbol overwrites the mapping). -/
def symKind (t : BTempl) (n : String) : Option SymKind :=
  if t.bps.contains n then some .bp
  else if t.locs.any (·.name == n) then some .loc
  else if (t.decls.any (·.name == n)) || (t.params.any (·.name == n)) then some .other
  else none

def declared (t : BTempl) (n : String) : Bool := (symKind t n).isSome

/-- apply `f` to the last element satisfying `p` -/
def updateLast {α} (p : α → Bool) (f : α → α) : List α → List α
  | [] => []
  | a :: r => if r.any p then a :: updateLast p f r else if p a then f a :: r else a :: r

def endpointFor (t : BTempl) (n : String) : Option Endpoint :=
  match symKind t n with
  | some .loc => some (.loc n)
  | some .bp => some (.bp n)
  | _ => none

def err (s : BState) (m : String) : BState := { s with errs := s.errs ++ [m] }

def popOpt (b : Bool) (fr : List Key) : Option Key × List Key :=
  if b then (fr.head?, fr.tail) else (none, fr)

def step (s : BState) : Call → BState
  | .declItem d =>
    match s.cur with
    | some t => { s with cur := some { t with decls := t.decls ++ [d] } }
    | none => { s with doc := { s.doc with gdecls := s.doc.gdecls ++ [d] } }
  | .declParam p => { s with params := s.params ++ [p] }
  | .pushExpr k => { s with frags := k :: s.frags }
  | .procBegin name =>
    { s with cur := some { name := name, params := s.params, decls := [], locs := [], bps := [], init := none, edges := [] },
             params := [] }
  | .procLocation name hi he =>
    match s.cur with
    | none => err s "no template"
    | some t =>
      -- DocumentBuilder::proc_location pops the rate first, then the invariant
      let (f, fr1) := popOpt he s.frags
      let (e, fr2) := popOpt hi fr1
      let s' := { s with frags := fr2,
                         cur := some { t with locs := t.locs ++ [{ name := name, inv := e, rate := f, urgent := false, committed := false }] } }
      if declared t name then err s' "duplicate definition" else s'
  | .procLocationCommit name =>
    match s.cur with
    | none => err s "no template"
    | some t =>
      match symKind t name with
      | some .loc =>
        if t.locs.any (fun l => l.name == name && l.urgent) then err s "committed and urgent"
        else { s with cur := some { t with locs := updateLast (·.name == name) (fun l => { l with committed := true }) t.locs } }
      | _ => err s "location expected"
  | .procLocationUrgent name =>
    match s.cur with
    | none => err s "no template"
    | some t =>
      match symKind t name with
      | some .loc =>
        if t.locs.any (fun l => l.name == name && l.committed) then err s "committed and urgent"
        else { s with cur := some { t with locs := updateLast (·.name == name) (fun l => { l with urgent := true }) t.locs } }
      | _ => err s "location expected"
  | .procBranchpoint name =>
    match s.cur with
    | none => err s "no template"
    | some t =>
      let s' := { s with cur := some { t with bps := t.bps ++ [name] } }
      if declared t name then err s' "duplicate definition" else s'
  | .procLocationInit name =>
    match s.cur with
    | none => err s "no template"
    | some t =>
      match symKind t name with
      | some .loc => { s with cur := some { t with init := some name } }
      | _ => err s "location expected"
  | .procEdgeBegin src dst ctrl =>
    match s.cur with
    | none => err s "no template"
    | some t =>
      match endpointFor t src, endpointFor t dst with
      | some a, some b => { s with edge := some (edge0 a b ctrl) }
      | none, _ => err s "no such location or branchpoint (source)"
      | _, none => err s "no such location or branchpoint (destination)"
  | .procSelect id ty =>
    match s.edge with
    | some e => { s with edge := some (applyLabel e (.select [(id, ty)])) }
    | none => err s "select outside of an edge"
  | .procGuard =>
    match s.edge, s.frags with
    | some e, k :: fr => { s with edge := some (applyLabel e (.guard k)), frags := fr }
    | _, _ => err s "must be declared inside of an edge"
  | .procSync d =>
    match s.edge, s.frags with
    | some e, k :: fr => { s with edge := some (applyLabel e (.sync k d)), frags := fr }
    | _, _ => err s "must be declared inside of an edge"
  | .procUpdate =>
    match s.edge, s.frags with
    | some e, k :: fr => { s with edge := some (applyLabel e (.assign k)), frags := fr }
    | _, _ => err s "must be declared inside of an edge"
  | .procProb =>
    match s.edge, s.frags with
    | some e, k :: fr => { s with edge := some (applyLabel e (.prob k)), frags := fr }
    | _, _ => err s "must be declared inside of an edge"
  | .procEdgeEnd _ _ =>
    match s.cur, s.edge with
    | some t, some e => { s with cur := some { t with edges := t.edges ++ [e] }, edge := none }
    | _, _ => s
  | .procEnd =>
    match s.cur with
    | some t => { s with doc := { s.doc with templates := s.doc.templates ++ [t] }, cur := none }
    | none => s
  | .instBegin _ _ _ => { s with pending := s.params, params := [] }
  | .instEnd name _ templ nargs =>
    let s1 := { s with pending := [] }
    match findInst s.doc templ with
    | none => err { s1 with frags := s.frags.drop nargs } "not a template"
    | some old =>
      if nargs = old.unbound then
        let args := (s.frags.take nargs).reverse
        { s1 with frags := s.frags.drop nargs,
                  doc := { s.doc with instances := s.doc.instances ++ [mkInst name s.pending old args] } }
      else err { s1 with frags := s.frags.drop nargs } "wrong number of arguments"
  | .process name =>
    match findInst s.doc name with
    | some i => { s with doc := { s.doc with processes := s.doc.processes ++ [i], priorities := s.doc.priorities ++ [(name, s.prio)] } }
    | none => err s "no such process"
  | .priorityInc => { s with prio := s.prio + 1 }
  | .processListEnd => s
  | .done => s
  | .error m => err s m

def run (s : BState) (cs : List Call) : BState := cs.foldl step s

def build (cs : List Call) : BState := run {} cs

end UtapModel.AM
