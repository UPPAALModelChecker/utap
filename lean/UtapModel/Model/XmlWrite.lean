/- Model of the XML writer (src/xmlwriter.cpp: `project / taTempl / location / init / transition / source / target /
   labels / label`) at tree level, an *independent* reader of the written tree (`readGraph`), and the specification
   `graphOf` of the template graph a document denotes (property C20).  Core Lean only.

   Label texts are the printed expressions (`expression_t::str()`), opaque keys except for the two shapes the writer's
   `label()` looks at: the text "1" and a text starting with "1 && ".  GUI attributes (x, y, color) and nails are not
   modelled (the independent reader ignores them). -/
import UtapModel.Model.Xml
namespace UtapModel.AM

/-- a printed expression, as far as `XMLWriter::label` distinguishes -/
inductive LTxt
  | one                      -- the text "1" (default guard / update / weight, and literally written 1)
  | andOne (rest : Key)      -- "1 && " ++ rest (how the type checker re-composes invariants)
  | plain (k : Key)          -- anything else
  deriving DecidableEq, Repr, Inhabited

structure WLoc where
  name : String
  inv : Option LTxt          -- `none`: empty expression
  rate : Option LTxt
  urgent : Bool
  committed : Bool
  deriving DecidableEq, Repr, Inhabited

/-- `edge_t::src / srcb`: a location (by its number `nr` = index in `locations`) or a branchpoint -/
inductive WEnd
  | loc (nr : Nat)
  | bp (nr : Nat)
  deriving DecidableEq, Repr, Inhabited

structure WSel where
  id : String
  ty : String                -- the text of the select type
  named : Bool               -- the type is a typedef name (the only case in which the writer can print it)
  deriving DecidableEq, Repr, Inhabited

structure WEdge where
  src : WEnd
  dst : WEnd
  ctrl : Bool
  select : List WSel
  guard : Option LTxt
  sync : Option LTxt
  assign : Option LTxt
  prob : Option LTxt
  deriving DecidableEq, Repr, Inhabited

structure WTempl where
  name : String
  locs : List WLoc
  bps : List String
  init : Option Nat          -- number of the initial location; `none`: no (or an unresolved) init
  edges : List WEdge
  deriving DecidableEq, Repr, Inhabited

/-- a process of the system line: is it a template used directly (then no instantiation line is written), and for each of
    its parameters whether it is bound (`instance_t::mapping`) -/
structure WProc where
  name : String
  isTempl : Bool
  bound : List Bool
  deriving DecidableEq, Repr, Inhabited

structure WDoc where
  templs : List WTempl
  procs : List WProc := []
  deriving DecidableEq, Repr, Inhabited

/-- what the writer of the *current* source does for the three optional features; computed from the generated tables
    (Gen/XmlTables.lean) by `Model/XmlWriteCfg.lean`, so that the model follows a repaired writer -/
structure WCfg where
  prob : Bool        -- a "probability" label is written (XMLWriter::labels)
  ctrl : Bool        -- the "controllable" attribute is written (XMLWriter::transition)
  bps : Bool         -- branchpoint elements are written and referenced (XMLWriter::taTempl / source / target)
  sel : Bool := false  -- every select binding is written, each with its declared type (XMLWriter::labels)
  deriving DecidableEq, Repr, Inhabited

def idOf (nr : Nat) : String := "id" ++ toString nr
def bpIdOf (nr : Nat) : String := "bp" ++ toString nr

/-! ### The writer -/

/-- `XMLWriter::label(kind, data)`: nothing for "1", a leading "1 && " is cut off -/
def wLabel (kind : String) : LTxt → List Xml
  | .one => []
  | .andOne r => [.elem "label" [("kind", kind)] [.text (.expr r)]]
  | .plain k => [.elem "label" [("kind", kind)] [.text (.expr k)]]

def wOptLabel (kind : String) : Option LTxt → List Xml
  | none => []
  | some t => wLabel kind t

def wLocAttrs (nl : WLoc × Nat) : List (String × String) := [("id", idOf nl.2)]
def wLocKids (nl : WLoc × Nat) : List Xml :=
  [Xml.elem "name" [] [.text (.str nl.1.name)]] ++ wOptLabel "invariant" nl.1.inv ++ wOptLabel "exponentialrate" nl.1.rate ++
  (if nl.1.committed then [Xml.elem "committed" [] []] else if nl.1.urgent then [Xml.elem "urgent" [] []] else [])

def selText (s : WSel) (withType : Bool) : String := s.id ++ " : " ++ (if withType then s.ty else "")

def selectsText : List WSel → String
  | [] => ""
  | [s] => selText s true
  | s :: r => selText s true ++ ", " ++ selectsText r

/-- `XMLWriter::labels`: all select bindings if the source writes them all (`c.sel`), otherwise only `select[0]`, its
    type only when it carries a typedef label; a probability only if the source has that `label("probability", ..)` call -/
def wEdgeLabels (c : WCfg) (e : WEdge) : List Xml :=
  (if c.sel then (if e.select.isEmpty then [] else [Xml.elem "label" [("kind", "select")] [.text (.str (selectsText e.select))]])
   else match e.select with
   | [] => []
   | s :: _ => [Xml.elem "label" [("kind", "select")] [.text (.str (selText s s.named))]]) ++
  wOptLabel "guard" e.guard ++ wOptLabel "synchronisation" e.sync ++ wOptLabel "assignment" e.assign ++
  (if c.prob then wOptLabel "probability" e.prob else [])

/-- the id written for an endpoint; `none` = the null `location_t*` of a branchpoint endpoint is dereferenced -/
def wEnd (c : WCfg) : WEnd → Option String
  | .loc n => some (idOf n)
  | .bp n => if c.bps then some (bpIdOf n) else none

def wEdgeAttrs (c : WCfg) (e : WEdge) : List (String × String) :=
  if c.ctrl && !e.ctrl then [("controllable", "false")] else []

def wEdgeKids (c : WCfg) (e : WEdge) (s d : String) : List Xml :=
  [Xml.elem "source" [("ref", s)] [], Xml.elem "target" [("ref", d)] []] ++ wEdgeLabels c e

/-- `XMLWriter::transition` -/
def wEdge (c : WCfg) (e : WEdge) : Option Xml :=
  match wEnd c e.src with
  | none => none
  | some s =>
    match wEnd c e.dst with
    | none => none
    | some d => some (.elem "transition" (wEdgeAttrs c e) (wEdgeKids c e s d))

def allSome {α} : List (Option α) → Option (List α)
  | [] => some []
  | none :: _ => none
  | some a :: r => (allSome r).map (a :: ·)

def wBps (c : WCfg) (t : WTempl) : List Xml :=
  if c.bps then t.bps.zipIdx.map (fun b => Xml.elem "branchpoint" [("id", bpIdOf b.2)] []) else []

def wTempl (c : WCfg) (t : WTempl) : Option Xml :=
  match t.init, allSome (t.edges.map (wEdge c)) with
  | some i, some es =>
    some (.elem "template" []
      ([Xml.elem "name" [] [.text (.str t.name)], Xml.elem "parameter" [] [], Xml.elem "declaration" [] []] ++
       (t.locs.zipIdx.map (fun nl => Xml.elem "location" (wLocAttrs nl) (wLocKids nl)) ++
        (wBps c t ++ ([Xml.elem "init" [("ref", idOf i)] []] ++ es)))))
  | _, _ => none

/-- `XMLWriter::system_instantiation` prints `p.arguments_str()` for every process that is not a template itself;
    `instance_t::print_arguments` looks up *every* parameter in `mapping` and dereferences the result: a free parameter
    (process with unbound parameters in the system line) dereferences `mapping.end()` -/
def procCrash (p : WProc) : Bool := !p.isTempl && p.bound.any (!·)

/-- `XMLWriter::project`; `none` = the writer crashes -/
def writeXml (c : WCfg) (d : WDoc) : Option Xml :=
  if d.procs.any procCrash then none
  else (allSome (d.templs.map (wTempl c))).map fun ts =>
    .elem "nta" [] ([Xml.elem "declaration" [] []] ++ (ts ++ [Xml.elem "system" [] []]))

/-! ### An independent reader of the written tree -/

inductive Flag | none | urgent | committed | both
  deriving DecidableEq, Repr, Inhabited

structure GLoc where
  id : Option String
  name : Option String
  inv : Option String
  rate : Option String
  flag : Flag
  deriving DecidableEq, Repr, Inhabited

structure GEdge where
  src : Option String
  tgt : Option String
  ctrl : Bool                          -- the `controllable` attribute, absent = true
  labels : List (String × String)      -- (kind, text) in document order
  deriving DecidableEq, Repr, Inhabited

structure GTempl where
  name : Option String
  locs : List GLoc
  inits : List (Option String)         -- the refs of all init elements
  edges : List GEdge
  deriving DecidableEq, Repr, Inhabited

abbrev Graph := List GTempl

def txtStr : Txt → String
  | .str s => s
  | .expr k => k
  | _ => "?"

/-- text content of an element -/
def contentOf (kids : List Xml) : String :=
  match kids with
  | .text t :: _ => txtStr t
  | _ => ""

def childText (tag : String) (kids : List Xml) : Option String :=
  kids.findSome? fun x => match x with
    | .elem t _ k => if t = tag then some (contentOf k) else none
    | .text _ => none

def labelOf (kind : String) (kids : List Xml) : Option String :=
  kids.findSome? fun x => match x with
    | .elem t a k => if t = "label" ∧ a.lookup "kind" = some kind then some (contentOf k) else none
    | .text _ => none

def hasChild (tag : String) (kids : List Xml) : Bool :=
  kids.any fun x => match x with
    | .elem t _ _ => t = tag
    | .text _ => false

def gLoc (a : List (String × String)) (k : List Xml) : GLoc :=
  { id := a.lookup "id", name := childText "name" k, inv := labelOf "invariant" k, rate := labelOf "exponentialrate" k,
    flag := match hasChild "urgent" k, hasChild "committed" k with
            | false, false => .none
            | true, false => .urgent
            | false, true => .committed
            | true, true => .both }

def refOf (tag : String) (kids : List Xml) : Option String :=
  kids.findSome? fun x => match x with
    | .elem t a _ => if t = tag then a.lookup "ref" else none
    | .text _ => none

/-- a `<label kind=..>text</label>` child -/
def lblF (x : Xml) : Option (String × String) :=
  match x with
  | .elem t la lk => if t = "label" then some ((la.lookup "kind").getD "", contentOf lk) else none
  | .text _ => none

/-- the `controllable` attribute of a transition, absent = true -/
def ctrlOfAttrs (a : List (String × String)) : Bool :=
  match a.lookup "controllable" with
  | none => true
  | some v => v = "true"

def gEdge (a : List (String × String)) (k : List Xml) : GEdge :=
  { src := refOf "source" k, tgt := refOf "target" k, ctrl := ctrlOfAttrs a, labels := k.filterMap lblF }

def locF (x : Xml) : Option GLoc :=
  match x with
  | .elem t a lk => if t = "location" then some (gLoc a lk) else none
  | .text _ => none

def initF (x : Xml) : Option (Option String) :=
  match x with
  | .elem t a _ => if t = "init" then some (a.lookup "ref") else none
  | .text _ => none

def edgeF (x : Xml) : Option GEdge :=
  match x with
  | .elem t a ek => if t = "transition" then some (gEdge a ek) else none
  | .text _ => none

def gTempl (k : List Xml) : GTempl :=
  { name := childText "name" k, locs := k.filterMap locF, inits := k.filterMap initF, edges := k.filterMap edgeF }

def templF (x : Xml) : Option GTempl :=
  match x with
  | .elem t _ k => if t = "template" then some (gTempl k) else none
  | .text _ => none

def readGraph : Xml → Graph
  | .elem _ _ kids => kids.filterMap templF
  | .text _ => []

/-! ### Specification: the graph a document denotes -/

/-- the text a label has to carry; `none`: no label (empty or trivially true / 1).  A leading "1 && " (the way the
    type checker stores invariants) is not part of the text. -/
def nontrivial : Option LTxt → Option String
  | none => none
  | some .one => none
  | some (.andOne r) => some r
  | some (.plain k) => some k

def flagOf (l : WLoc) : Flag :=
  match l.urgent, l.committed with
  | false, false => .none
  | true, false => .urgent
  | false, true => .committed
  | true, true => .both

def glocOf (nl : WLoc × Nat) : GLoc :=
  { id := some (idOf nl.2), name := some nl.1.name, inv := nontrivial nl.1.inv, rate := nontrivial nl.1.rate, flag := flagOf nl.1 }

/-- the id of an endpoint: for a branchpoint only if the writer writes branchpoint elements at all (edges through
    branchpoints are outside the property's statement except for "writing never crashes") -/
def endId (c : WCfg) : WEnd → Option String
  | .loc n => some (idOf n)
  | .bp n => if c.bps then some (bpIdOf n) else none

def optLabel (kind : String) (t : Option LTxt) : List (String × String) :=
  match nontrivial t with
  | some s => [(kind, s)]
  | none => []

def gedgeOf (c : WCfg) (e : WEdge) : GEdge :=
  { src := endId c e.src, tgt := endId c e.dst, ctrl := e.ctrl,
    labels := (if e.select.isEmpty then [] else [("select", selectsText e.select)]) ++ optLabel "guard" e.guard ++
              optLabel "synchronisation" e.sync ++ optLabel "assignment" e.assign ++ optLabel "probability" e.prob }

def gtemplOf (c : WCfg) (t : WTempl) : GTempl :=
  { name := some t.name, locs := t.locs.zipIdx.map glocOf, inits := [t.init.map idOf], edges := t.edges.map (gedgeOf c) }

def graphOf (c : WCfg) (d : WDoc) : Graph := d.templs.map (gtemplOf c)

/-! ### Exception shapes (computed) -/

inductive Shape
  | probabilityDropped        -- a non-trivial probability label is never written
  | selectBindingsDropped     -- only the first select binding is written
  | selectTypeDropped         -- the type of the (first) select binding is written only if it is a typedef name
  | controllableDropped       -- controllable="false" is never written
  | branchpointEndpoint       -- an edge from/to a branchpoint: null location_t* dereferenced
  | urgentAndCommitted        -- (cannot arise from the builder) only <committed/> is written
  | noInit                    -- template without initial location: null symbol dereferenced
  | unboundProcess            -- a process with free parameters: `mapping.end()` dereferenced by print_arguments
  deriving DecidableEq, Repr, Inhabited

def selShapes (select : List WSel) : List Shape :=
  match select with
  | s :: _ => if s.named then [] else [Shape.selectTypeDropped]
  | [] => []

def edgeShapes (c : WCfg) (e : WEdge) : List Shape :=
  (if !c.prob && (nontrivial e.prob).isSome then [Shape.probabilityDropped] else []) ++
  (if !c.sel && e.select.length ≥ 2 then [Shape.selectBindingsDropped] else []) ++
  (if c.sel then [] else selShapes e.select) ++
  (if c.ctrl || e.ctrl then [] else [Shape.controllableDropped]) ++
  (if (wEnd c e.src).isSome && (wEnd c e.dst).isSome then [] else [Shape.branchpointEndpoint])

def templShapes (c : WCfg) (t : WTempl) : List Shape :=
  t.edges.flatMap (edgeShapes c) ++
  (if t.locs.any (fun l => l.urgent && l.committed) then [Shape.urgentAndCommitted] else []) ++
  (if t.init.isNone then [Shape.noInit] else [])

def docShapes (c : WCfg) (d : WDoc) : List Shape :=
  d.templs.flatMap (templShapes c) ++ (if d.procs.any procCrash then [Shape.unboundProcess] else [])

end UtapModel.AM
