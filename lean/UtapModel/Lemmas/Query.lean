/- Lemmas for the query layer (Props/C03Query.lean): an operand printed by the expression printer is read back when more query text
   follows, and begins with a token no query parser takes for one of its terminals; the generated tables on those terminals; the
   printers as token lists, and the parsers on each leading terminal. -/
import UtapModel.Model.Query
import UtapModel.Lemmas.PrintLemmas
import UtapModel.Lemmas.StrCode

namespace UtapModel.Query
open UtapModel.Pratt UtapModel.ExprTable UtapModel.PrintModel UtapModel.QueryTables

abbrev P := lprint genData mt

/-- `rest` cannot continue an expression: the operand parser stops in front of it -/
def QStop (rest : List Tok) : Prop := contAt utapT 0 rest = false ∧ Safe utapT 0 rest

theorem qstop_of {ts : List Tok} (h : contAt utapT 0 ts = false) : QStop ts := ⟨h, safe_of_contAt utapT h⟩

theorem qstop_colon (r) : QStop (.colon :: r) := qstop_of rfl

theorem pE_print (e : Expr) (h : goodE e = true) {rest : List Tok} (hs : contAt utapT 0 rest = false) :
    pE (P e ++ rest) = some (e, rest) :=
  parse_R utapT mt (by decide) (lprint_R genData mt e h) hs _ (Nat.le_refl _)

theorem opStart_print (e : Expr) (h : goodE e = true) (rest : List Tok) : OpStart utapT (P e ++ rest) :=
  R_start utapT mt (lprint_R genData mt e h) rfl rest

/-- the terminals the parsers of the query layer test for -/
abbrev KW : List String := ["T_PROBA", "T_SIMULATE", "'E'", "T_BOX", "T_DIAMOND", "T_HASH", "T_LEQ", "';'", "'{'", "'}'", "'U'",
  "T_AF", "T_AG", "T_EF", "T_EG", "'A'", "'W'", "T_LEADS_TO", "T_CONTROL", "T_CONTROL_T", "T_SUP", "T_INF", "T_BOUNDS", "T_MULT", "T_GEQ"]

/-- those of them that follow an operand in a printed query -/
abbrev FOLLOW : List String := ["T_LEADS_TO", "'U'", "'W'", "'}'", "';'"]

/-- One evaluation for all that is asked of the terminals: computing a `qid` is most of the work, a scan of the two generated lists of
    terminals for the name, which compares codes (Lemmas/StrCode.lean). -/
theorem kw_tbl :
    (∀ x ∈ KW, qtok x = .sym (qid x) ∧ utapT.isPre (qid x) = false ∧ ∀ y ∈ KW, (qid x == qid y) = (x == y)) ∧
    ∀ x ∈ FOLLOW, utapT.isBin (qid x) = false ∧ utapT.isPost (qid x) = false := by
  simp only [qid, qtok, tokId, List.idxOf, List.contains_eq_any_beq, StrCode.beq_eq_code]
  decide +kernel

/-- The rules below leave side goals `"T_EF" ∈ KW` when `simp` rewrites with them; it closes them with these.  The place of each name in
    the list is found by unification (`decide` would compare strings by evaluation, which is slow). -/
theorem kw_mem :
    "T_PROBA" ∈ KW ∧ "T_SIMULATE" ∈ KW ∧ "'E'" ∈ KW ∧ "T_BOX" ∈ KW ∧ "T_DIAMOND" ∈ KW ∧ "T_HASH" ∈ KW ∧ "T_LEQ" ∈ KW ∧
    "';'" ∈ KW ∧ "'{'" ∈ KW ∧ "'}'" ∈ KW ∧ "'U'" ∈ KW ∧
    "T_AF" ∈ KW ∧ "T_AG" ∈ KW ∧ "T_EF" ∈ KW ∧ "T_EG" ∈ KW ∧ "'A'" ∈ KW ∧ "'W'" ∈ KW ∧ "T_LEADS_TO" ∈ KW ∧
    "T_CONTROL" ∈ KW ∧ "T_CONTROL_T" ∈ KW ∧ "T_SUP" ∈ KW ∧ "T_INF" ∈ KW ∧ "T_BOUNDS" ∈ KW ∧ "T_MULT" ∈ KW ∧ "T_GEQ" ∈ KW := by
  with_unfolding_all repeat' constructor

theorem qtok_kw {x} (hx : x ∈ KW) : qtok x = .sym (qid x) := (kw_tbl.1 x hx).1
theorem isTok_kw {x y} (hx : x ∈ KW) (hy : y ∈ KW) : isTok (qid x) y = (x == y) := (kw_tbl.1 x hx).2.2 y hy
theorem isTok_self (x : String) : isTok (qid x) x = true := beq_self_eq_true _

theorem isTok_pre {t y} (hp : utapT.isPre t = true) (hy : y ∈ KW) : isTok t y = false := by
  simp only [isTok, beq_eq_false_iff_ne]
  rintro rfl
  rw [(kw_tbl.1 y hy).2.1] at hp
  cases hp

theorem contAt_kw (x) (hx : x ∈ FOLLOW) (r : List Tok) : contAt utapT 0 (.sym (qid x) :: r) = false := by
  simp only [contAt, kw_tbl.2 x hx, Bool.false_and, Bool.or_self]

theorem qtok_punct :
    qtok "'['" = .lb ∧ qtok "']'" = .rb ∧ qtok "'('" = .lp ∧ qtok "')'" = .rp ∧ qtok "','" = .comma ∧ qtok "':'" = .colon := by
  decide +kernel

theorem renderQ_nil (args : List (List Tok)) : renderQ [] args = [] := rfl
theorem renderQ_lit (s ts items) (args : List (List Tok)) : renderQ (.lit s ts :: items) args = ts.map qtok ++ renderQ items args := rfl
theorem renderQ_arg (i items) (args : List (List Tok)) : renderQ (.arg i :: items) args = args.getD i [] ++ renderQ items args := rfl

/-- `printSub` at token level, read off the generated layouts (`printQ_eq` likewise) -/
theorem printSub_eq (s : Sub) : printSub P s = match s with
    | .path k e => .sym (qid (pathTokName k)) :: P e
    | .leadsTo a b => P a ++ .sym (qid "T_LEADS_TO") :: P b
    | .until w a b => .sym (qid "'A'") :: .lb :: (P a ++ .sym (qid (if w then "'W'" else "'U'")) :: (P b ++ [.rb])) := by
  rcases s with ⟨_ | _ | _ | k, e⟩ | ⟨a, b⟩ | ⟨_ | _, a, b⟩ <;>
    simp only [printSub, pathKind, pathTokName, layout, printLayouts, List.lookup, String.reduceBEq, Option.getD_some, List.map, stripText,
      renderQ_lit, renderQ_arg, renderQ_nil, qtok_kw, kw_mem, qtok_punct, List.getD_cons_zero, List.getD_cons_succ,
      List.cons_append, List.nil_append, List.append_nil, Bool.false_eq_true, ↓reduceIte]

theorem parseSub_path {k : Nat} (hk : k < 4) (r : List Tok) :
    parseSub (.sym (qid (pathTokName k)) :: r) = (pE r).map fun p => (.path k p.1, p.2) := by
  match k, hk with
  | 0, _ | 1, _ | 2, _ | 3, _ =>
    simp only [pathTokName, parseSub, isTok_kw, kw_mem, String.reduceBEq, Bool.false_eq_true, ↓reduceIte]

theorem parseSub_A (r : List Tok) : parseSub (.sym (qid "'A'") :: r) = untilTail r := by
  simp only [parseSub, isTok_kw, kw_mem, String.reduceBEq, Bool.false_eq_true, ↓reduceIte]

theorem parseSub_expr {ts : List Tok} (h : OpStart utapT ts) : parseSub ts = leads ts := by
  cases h with
  | sym hp => simp only [parseSub, isTok_pre hp, kw_mem, Bool.false_eq_true, ↓reduceIte]
  | _ => rfl

theorem parseSub_print (s : Sub) (h : s.wf = true) {rest : List Tok} (hs : contAt utapT 0 rest = false) :
    parseSub (printSub P s ++ rest) = some (s, rest) := by
  rw [printSub_eq]
  cases s with
  | path k e =>
    simp only [Sub.wf, Bool.and_eq_true, decide_eq_true_eq] at h
    simp only [List.cons_append, parseSub_path h.1, pE_print e h.2 hs, Option.map_some]
  | leadsTo a b =>
    simp only [Sub.wf, Bool.and_eq_true] at h
    simp only [List.append_assoc, List.cons_append, parseSub_expr (opStart_print a h.1 _), leads,
      pE_print a h.1 (contAt_kw "T_LEADS_TO" (by decide) _), isTok_self, if_true, pE_print b h.2 hs]
  | «until» w a b =>
    simp only [Sub.wf, Bool.and_eq_true] at h
    have hu : contAt utapT 0 (.sym (qid (if w then "'W'" else "'U'")) :: (P b ++ .rb :: rest)) = false := by
      cases w <;> exact contAt_kw _ (by decide) _
    simp only [List.cons_append, List.nil_append, List.append_assoc, parseSub_A, untilTail, pE_print a h.1 hu,
      pE_print b h.2 (rest := .rb :: rest) rfl]
    cases w <;> simp only [isTok_kw, kw_mem, String.reduceBEq, Bool.or_true, Bool.or_false, Bool.false_eq_true, ↓reduceIte]

theorem subEnd_print (s : Sub) (h : s.wf = true) (mk : Sub → Query) : subEnd (printSub P s) mk = some (mk s) := by
  have := parseSub_print s h (rest := []) rfl
  rw [List.append_nil] at this
  simp only [subEnd, this]

theorem opStart_printList {l : List Expr} (hl : l ≠ []) (hg : l.all goodE = true) (rest : List Tok) :
    OpStart utapT (printList P l ++ rest) := by
  match l, hl with
  | e :: r, _ =>
    simp only [List.all_cons, Bool.and_eq_true] at hg
    cases r with
    | nil => exact opStart_print e hg.1 rest
    | cons => simpa only [printList, List.append_assoc] using opStart_print e hg.1 _

theorem parseList_print (l : List Expr) (hl : l ≠ []) (hg : l.all goodE = true) {rest : List Tok} (hs : contAt utapT 0 rest = false)
    (hc : ∀ r, rest ≠ .comma :: r) (f : Nat) (hf : (printList P l ++ rest).length < f) :
    parseList f (printList P l ++ rest) = some (l, rest) := by
  induction l generalizing f with
  | nil => exact absurd rfl hl
  | cons e r ih =>
    simp only [List.all_cons, Bool.and_eq_true] at hg
    obtain ⟨f, rfl⟩ := succ_of_le hf
    cases r with
    | nil =>
      -- the last element: `hc` makes the parser's match take its second alternative (`simp` finds it in the context)
      simp only [printList, parseList, pE_print e hg.1 hs]
    | cons e2 r2 =>
      simp only [printList, List.append_assoc, List.cons_append, List.length_append, List.length_cons] at hf ih ⊢
      simp only [parseList, pE_print e hg.1 (rest := .comma :: _) rfl, ih (List.cons_ne_nil _ _) hg.2 f (by omega)]

theorem listEnd_print (w : Nat) (p : Expr) (l : List Expr) (hl : l ≠ []) (hg : l.all goodE = true) :
    listEnd w p (printList P l) = some (.opt w p l) := by
  have h := parseList_print l hl hg (rest := []) rfl nofun _ (Nat.lt_add_one _)
  rw [List.append_nil] at h
  simp only [listEnd, h]

theorem printQ_eq (q : Query) : printQ P q = match q with
    | .sub s => printSub P s
    | .control s => .sym (qid "T_CONTROL") :: .colon :: printSub P s
    | .efControl s => .sym (qid "T_EF") :: .sym (qid "T_CONTROL") :: .colon :: printSub P s
    | .ct2 a b s => .sym (qid "T_CONTROL_T") :: .sym (qid "T_MULT") :: .lp :: (P a ++ .comma :: (P b ++ .rp :: .colon :: printSub P s))
    | .ct1 a s => .sym (qid "T_CONTROL_T") :: .sym (qid "T_MULT") :: .lp :: (P a ++ .rp :: .colon :: printSub P s)
    | .ct0 s => .sym (qid "T_CONTROL_T") :: .sym (qid "T_MULT") :: .colon :: printSub P s
    | .po l s => .sym (qid "'{'") :: (printList P l ++ .sym (qid "'}'") :: .sym (qid "T_CONTROL") :: .colon :: printSub P s)
    | .opt w p l => .sym (qid (optTokName w)) :: .sym (qid "'{'") :: (P p ++ .sym (qid "'}'") :: .colon :: printList P l) := by
  rcases q with s | s | s | ⟨a, b, s⟩ | ⟨a, s⟩ | s | ⟨l, s⟩ | ⟨_ | _ | w, p, l⟩ <;>
    simp only [printQ, optKind, optTokName, layout, printLayouts, List.lookup, String.reduceBEq, Option.getD_some, List.map, stripText,
      renderQ_lit, renderQ_arg, renderQ_nil, qtok_kw, kw_mem, qtok_punct, List.getD_cons_zero, List.getD_cons_succ,
      List.cons_append, List.nil_append, List.append_nil]

theorem optOf_kw {x : String} (hx : x ∈ KW) :
    optOf (qid x) = if x = "T_SUP" then some 0 else if x = "T_INF" then some 1 else if x = "T_BOUNDS" then some 2 else none := by
  simp only [optOf, isTok_kw hx, kw_mem, beq_iff_eq]

theorem optOf_pre {t : Nat} (hp : utapT.isPre t = true) : optOf t = none := by
  simp only [optOf, isTok_pre hp, kw_mem, Bool.false_eq_true, ↓reduceIte]

theorem parseQ_control (r : List Tok) : parseQ (.sym (qid "T_CONTROL") :: .colon :: r) = subEnd r .control := by
  simp only [parseQ, isTok_self, ↓reduceIte]

theorem parseQ_efControl (r : List Tok) :
    parseQ (.sym (qid "T_EF") :: .sym (qid "T_CONTROL") :: .colon :: r) = subEnd r .efControl := by
  simp only [parseQ, optOf_kw, isTok_kw, kw_mem, String.reduceBEq, String.reduceEq, Bool.false_eq_true, ↓reduceIte]

theorem parseQ_ct (r : List Tok) : parseQ (.sym (qid "T_CONTROL_T") :: .sym (qid "T_MULT") :: r) = ctTail r := by
  simp only [parseQ, isTok_kw, kw_mem, String.reduceBEq, Bool.false_eq_true, ↓reduceIte]

theorem parseQ_opt {w : Nat} (hw : w < 3) (r : List Tok) : parseQ (.sym (qid (optTokName w)) :: r) = optTail w r := by
  match w, hw with
  | 0, _ | 1, _ | 2, _ =>
    simp only [optTokName, parseQ, optOf_kw, isTok_kw, kw_mem, String.reduceBEq, String.reduceEq, Bool.false_eq_true, ↓reduceIte]

theorem parseQ_po_nil (r : List Tok) :
    parseQ (.sym (qid "'{'") :: .sym (qid "'}'") :: r) = poTail [] (.sym (qid "'}'") :: r) := by
  simp only [parseQ, isTok_kw, kw_mem, String.reduceBEq, Bool.false_eq_true, ↓reduceIte]

theorem parseQ_po {r : List Tok} (h : OpStart utapT r) : parseQ (.sym (qid "'{'") :: r) = poList r := by
  simp only [parseQ, isTok_kw, kw_mem, String.reduceBEq, Bool.false_eq_true, ↓reduceIte]
  cases h with
  | sym hp => simp only [isTok_pre hp, kw_mem, Bool.false_eq_true, ↓reduceIte]
  | _ => rfl

theorem parseQ_expr {ts : List Tok} (h : OpStart utapT ts) : parseQ ts = subEnd ts .sub := by
  cases h with
  | sym hp => simp only [parseQ, optOf_pre hp, isTok_pre hp, kw_mem, Bool.false_eq_true, ↓reduceIte]
  | _ => rfl

theorem parseQ_EF {r : List Tok} (h : OpStart utapT r) : parseQ (.sym (qid "T_EF") :: r) = subEnd (.sym (qid "T_EF") :: r) .sub := by
  simp only [parseQ, optOf_kw, isTok_kw, kw_mem, String.reduceBEq, String.reduceEq, Bool.false_eq_true, ↓reduceIte]
  cases h with
  | sym hp => simp only [isTok_pre hp, kw_mem, Bool.false_eq_true, ↓reduceIte]
  | _ => rfl

theorem parseQ_kw {x : String} (hx : x ∈ ["T_AF", "T_AG", "T_EG", "'A'"]) (r : List Tok) :
    parseQ (.sym (qid x) :: r) = subEnd (.sym (qid x) :: r) .sub := by
  simp only [List.mem_cons, List.not_mem_nil, or_false] at hx
  rcases hx with rfl | rfl | rfl | rfl <;>
    simp only [parseQ, optOf_kw, isTok_kw, kw_mem, String.reduceBEq, String.reduceEq, Bool.false_eq_true, ↓reduceIte]

/-- a query that is a plain `SubProperty` is not taken for one of the `control` / `sup` forms -/
theorem parseQ_sub (s : Sub) (h : s.wf = true) : parseQ (printSub P s) = some (.sub s) := by
  rw [← subEnd_print s h .sub, printSub_eq]
  cases s with
  | path k e =>
    simp only [Sub.wf, Bool.and_eq_true, decide_eq_true_eq] at h
    match k, h.1 with
    | 0, _ | 1, _ | 3, _ => exact parseQ_kw (by decide) _
    | 2, _ => exact parseQ_EF (List.append_nil (P e) ▸ opStart_print e h.2 [])
  | leadsTo a b =>
    simp only [Sub.wf, Bool.and_eq_true] at h
    exact parseQ_expr (opStart_print a h.1 _)
  | «until» w a b => exact parseQ_kw (by decide) _

theorem query_roundtrip (q : Query) (h : q.wf = true) : parseQ (qprint q) = some q := by
  unfold qprint
  rw [printQ_eq]
  cases q with
  | sub s => exact parseQ_sub s h
  | control s => exact (parseQ_control _).trans (subEnd_print s h _)
  | efControl s => exact (parseQ_efControl _).trans (subEnd_print s h _)
  | ct2 a b s =>
    simp only [Query.wf, Bool.and_eq_true] at h
    simp only [parseQ_ct, ctTail, pE_print a h.1.1 (rest := .comma :: _) rfl, pE_print b h.1.2 (rest := .rp :: _) rfl, subEnd_print s h.2]
  | ct1 a s =>
    simp only [Query.wf, Bool.and_eq_true] at h
    simp only [parseQ_ct, ctTail, pE_print a h.1 (rest := .rp :: _) rfl, subEnd_print s h.2]
  | ct0 s => simp only [parseQ_ct, ctTail, subEnd_print s h]
  | po l s =>
    simp only [Query.wf, Bool.and_eq_true] at h
    cases l with
    | nil => simp only [printList, List.nil_append, parseQ_po_nil, poTail, isTok_self, Bool.and_self, if_true, subEnd_print s h.2]
    | cons e r =>
      have hne := List.cons_ne_nil e r
      have hstop := contAt_kw "'}'" (by decide) (.sym (qid "T_CONTROL") :: .colon :: printSub P s)
      have hl := parseList_print _ hne h.1 hstop nofun _ (Nat.lt_add_one _)
      simp only [parseQ_po (opStart_printList hne h.1 _), poList, hl, poTail, isTok_self, Bool.and_self, if_true, subEnd_print s h.2]
  | opt w p l =>
    simp only [Query.wf, Bool.and_eq_true, decide_eq_true_eq, Bool.not_eq_true', List.isEmpty_eq_false_iff] at h
    simp only [parseQ_opt h.1.1.1, optTail, isTok_self, if_true, pE_print p h.1.1.2 (contAt_kw "'}'" (by decide) _),
      listEnd_print w p l h.2 h.1.2]

end UtapModel.Query
