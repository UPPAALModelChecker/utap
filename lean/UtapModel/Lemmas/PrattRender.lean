/- The renderings of Model/Pratt.lean are admissible (`R`), hence parse back (`main`); and what the parser makes of the two operators
   that are no node of a tree: unary plus and `imply`. -/
import UtapModel.Lemmas.PrattMain

namespace UtapModel.Pratt

variable (T : Tbl) (mt : Nat)

variable {T mt} in
theorem R.wrap {p : Bool} {c : Nat} {x : Expr} {ts : List Tok} (h0 : R T mt false 0 x ts)
    (hc : p = false → R T mt false c x ts) : R T mt false c x (wrap p ts) := by
  cases p with
  | true => exact R.paren h0
  | false => exact hc rfl

variable {T mt} in
/-- the parentheses `render` writes around a node of level `l` -/
theorem R_wrap_render {full : Bool} {ctx l : Nat} {e : Expr} {body : List Tok}
    (h : ∀ c, c ≤ l → R T mt false c e body) : R T mt false ctx e (wrap (full || decide (l < ctx)) body) :=
  R.wrap (h 0 (Nat.zero_le _)) fun hp => h ctx (by simpa using (Bool.or_eq_false_iff.mp hp).2)

theorem atomToks_of_ne {a : Atom} (h : a ≠ .intMin) : atomToks mt a = [.atom a] := by
  cases a <;> first | rfl | exact absurd rfl h

theorem render_acons_nil (full x) (c : Nat) :
    render T mt full c (.acons x .anil) = render T mt full 0 x := rfl

theorem render_acons_cons (full x rest) (c : Nat) (h : rest ≠ .anil) :
    render T mt full c (.acons x rest) = render T mt full 0 x ++ [.comma] ++ render T mt full 0 rest := by
  cases rest <;> first | rfl | exact absurd rfl h

/-- both renderings are admissible: of an expression in every context, of an argument list whatever context is passed -/
theorem render_R (full b e) (h : wf T mt b e = true) (ctx : Nat) :
    R T mt b (bif b then 0 else ctx) e (render T mt full ctx e) := by
  fun_induction wf T mt b e generalizing ctx with
  | case1 =>
    simp only [Bool.and_eq_true] at h
    exact R.intMin h.1 h.2
  | case2 a ha =>
    rw [render, atomToks_of_ne mt ha]
    exact R.atom ha
  | case3 t x ih =>
    simp only [Bool.and_eq_true, Bool.not_eq_true'] at h
    exact R_wrap_render (fun c hc => R.pre h.1.1 h.1.2 hc (ih h.2 _))
  | case4 k id ty x ih => exact R_wrap_render (fun c hc => R.quant hc (ih h _))
  | case5 t x ih =>
    simp only [Bool.and_eq_true, Bool.not_eq_true'] at h
    exact R_wrap_render (fun c hc => R.post h.1.1 h.1.2 hc (ih h.2 _))
  | case6 n x ih => exact R_wrap_render (fun c hc => R.dot hc (ih h _))
  | case7 x ih => exact R_wrap_render (fun c hc => R.dotLoc hc (ih h _))
  | case8 t l r ihl ihr =>
    simp only [Bool.and_eq_true, Bool.not_eq_true'] at h
    exact R_wrap_render (fun c hc => R.bin h.1.1.1.1 h.1.1.1.2 h.1.1.2 hc (ihl h.1.2 _) (ihr h.2 _))
  | case9 c a b ihc iha ihb =>
    simp only [Bool.and_eq_true] at h
    exact R_wrap_render (fun c' hc => R.tern hc (ihc h.1.1 _) (iha h.1.2 _) (ihb h.2 _))
  | case10 a i iha ihi =>
    simp only [Bool.and_eq_true] at h
    exact R_wrap_render (fun c hc => R.index hc (iha h.1 _) (ihi h.2 _))
  | case11 k a iha => exact R.fn1 (iha h _)
  | case12 k a b iha ihb =>
    simp only [Bool.and_eq_true] at h
    exact R.fn2 (iha h.1 _) (ihb h.2 _)
  | case13 k a b c iha ihb ihc =>
    simp only [Bool.and_eq_true] at h
    exact R.fn3 (iha h.1.1 _) (ihb h.1.2 _) (ihc h.2 _)
  | case14 f args ihf iha =>
    simp only [Bool.and_eq_true] at h
    exact R_wrap_render (fun c hc => R.call hc (ihf h.1 _) (iha h.2 0))
  -- an argument list where an expression is expected (15, 16) and an expression where an argument list is (19): not `wf`
  | case15 | case16 | case19 => exact nomatch h
  | case17 => exact R.anil
  | case18 x rest ihx ihr =>
    simp only [Bool.and_eq_true] at h
    by_cases hr : rest = .anil
    · subst hr
      exact R.aone (ihx h.1 0)
    · rw [render_acons_cons T mt full x rest ctx hr]
      exact R.acons (ihx h.1 0) (ihr h.2 0) hr

theorem roundtrip_R (hT : T.ternL ≤ T.questL) {e : Expr} {ts : List Tok} (hR : R T mt false 0 e ts) :
    parseTop T ts = some e := by
  simp only [parseTop, parse_R_end T mt hT hR _ (Nat.le_refl _)]

/-- **Round trip** for the two renderings of Model/Pratt.lean: minimal (`full = false`) and fully parenthesised. -/
theorem roundtrip (hT : T.ternL ≤ T.questL) (full : Bool) (e : Expr) (h : wf T mt false e = true) :
    parseTop T (render T mt full 0 e) = some e :=
  roundtrip_R T mt hT (render_R T mt full false e h 0)

theorem unary_plus (hT : T.ternL ≤ T.questL) {t : Nat} {e : Expr} {ts : List Tok}
    (h1 : T.isPre t = true) (h2 : T.prePlus t = true) (hR : R T mt false (T.mn (T.pp t)) e ts) :
    parseTop T (.sym t :: ts) = some e := by
  have hstart := R_start T mt hR rfl []
  rw [List.append_nil] at hstart
  simp only [parseTop, List.length_cons, parseE_sym T _ 0 t ts hstart, h1, if_true, parse_R_end T mt hT hR _ (Nat.le_refl _), h2,
    loop_stop T _ 0 e [] rfl]

theorem imply_parse (hT : T.ternL ≤ T.questL) {t : Nat} {a b : Expr} {ta tb : List Tok}
    (h1 : T.isBin t = true) (h2 : T.isImply t = true) (h3 : T.isPost t = false)
    (ha : R T mt false (T.lctx (T.bp t)) a ta) (hb : R T mt false (T.mn (T.bp t)) b tb) :
    parseTop T (ta ++ [.sym t] ++ tb) = some (.bin T.orTok (.pre T.notTok a) b) := by
  have key : ∀ g, tb.length + 1 ≤ g → loop T (g + 1) 0 a (.sym t :: tb) = some (.bin T.orTok (.pre T.notTok a) b, []) := by
    intro g hg
    obtain ⟨g', rfl⟩ := succ_of_le hg
    simp only [loop_sym, h1, Bool.true_and, decide_eq_true_eq, Nat.zero_le, if_true, parse_R_end T mt hT hb (g' + 1) hg, Tbl.mkBin, h2,
      loop_stop T g' 0 _ [] rfl]
  simp only [parseTop, List.append_assoc, List.cons_append, List.nil_append,
    (main T mt hT ha).left (Nat.zero_le _) (by simp [contAt, h3]) key _ (Nat.le_refl _)]

end UtapModel.Pratt
