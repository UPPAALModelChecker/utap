/- Initial-location clause of C08: the invariant `InitInv` that the readers' protocol `initShape` maintains as long as no
   diagnostic is recorded (`init_location_run`).  Only five callbacks touch what it looks at; the others keep it
   (`Builds.keeps`). -/
import UtapModel.Lemmas.C08Own
namespace UtapModel.Builder

/-- what the initial-location clause looks at in a template -/
def Templ.core (T : Templ) : Bool × Bool × Bool := (T.isTA, T.dynamic, T.init.isSome)

structure Keeps (s s' : BState) : Prop where
  cur : s'.currentTemplate = s.currentTemplate
  diags : s.diags ≤ s'.diags
  core : s'.doc.templates.map Templ.core = s.doc.templates.map Templ.core

theorem Keeps.trans {a b c : BState} (h1 : Keeps a b) (h2 : Keeps b c) : Keeps a c :=
  ⟨h2.cur.trans h1.cur, Nat.le_trans h1.diags h2.diags, h2.core.trans h1.core⟩
theorem Keeps.of_eq {s s' : BState} (h1 : s'.currentTemplate = s.currentTemplate) (h2 : s.diags ≤ s'.diags)
    (h3 : s'.doc.templates = s.doc.templates) : Keeps s s' := ⟨h1, h2, by rw [h3]⟩
theorem keeps_modifyTempl (s : BState) (t : Nat) {f : Templ → Templ} (hf : ∀ T, (f T).core = T.core) :
    Keeps s { s with doc := s.doc.modifyTempl t f } :=
  ⟨rfl, Nat.le_refl _, map_modify_of_comp Templ.core hf⟩

theorem Builds.keeps {safe special : Prop} {s s' : BState} (b : Builds safe special s s') :
    s.diags ≤ s'.diags ∧ (¬ special → Keeps s s') := by
  have plain : ∀ {a b : BState}, Keeps a b → a.diags ≤ b.diags ∧ (¬ special → Keeps a b) := fun k => ⟨k.diags, fun _ => k⟩
  induction b with
  | trans _ _ ih1 ih2 => exact ⟨Nat.le_trans ih1.1 ih2.1, fun hn => (ih1.2 hn).trans (ih2.2 hn)⟩
  | quiet _ _ _ _ h5 h6 h7 => exact plain ⟨h5, h7, by rw [h6]⟩
  | leave s hsp | enter s _ hsp | addTemplate s _ _ _ hsp | setInit s _ _ _ hsp =>
    exact ⟨Nat.le_refl _, fun hn => absurd hsp hn⟩
  | defineTempl s | addEdge s | relabel s => exact plain (keeps_modifyTempl s _ fun _ => rfl)
  | _ => exact plain (Keeps.of_eq rfl (Nat.le_refl _) rfl)

theorem step_keeps (s : BState) (c : Call) (h : c.isInitSpecial = false) : Keeps s (step s c) :=
  (step_builds s c).keeps.2 (by simp [h])

theorem diags_step (s : BState) (c : Call) : s.diags ≤ (step s c).diags := (step_builds s c).keeps.1

theorem diags_run (cs : List Call) (s : BState) : s.diags ≤ (run s cs).diags :=
  run_inv (P := fun s' => s.diags ≤ s'.diags) (fun s' c h => Nat.le_trans h (diags_step s' c)) cs s (Nat.le_refl _)

/-- all closed TA templates have an initial location; the open one (flag p) may still lack it -/
def InitInv (s : BState) (p : Bool) : Prop :=
  ∀ (t : Nat) (T : Templ), s.doc.templates[t]? = some T → T.isTA = true → T.dynamic = false →
    T.init.isSome = true ∨ (p = true ∧ s.currentTemplate = some t)

theorem InitInv.transfer {s s' : BState} {p p' : Bool} (h : InitInv s p)
    (hc : s'.doc.templates.map Templ.core = s.doc.templates.map Templ.core)
    (hp : p = true → p' = true ∧ s'.currentTemplate = s.currentTemplate) : InitInv s' p' := by
  intro t T' hT' hta hdy
  have hm : (s.doc.templates[t]?).map Templ.core = some T'.core := by
    rw [← List.getElem?_map, ← hc, List.getElem?_map, hT']
    rfl
  obtain ⟨T, hT, hcore⟩ := Option.map_eq_some_iff.mp hm
  obtain ⟨h1, h23⟩ := Prod.mk.inj hcore
  obtain ⟨h2, h3⟩ := Prod.mk.inj h23
  exact (h t T hT (h1.trans hta) (h2.trans hdy)).imp (fun h4 => h3.symm.trans h4)
    fun ⟨h4, h5⟩ => ⟨(hp h4).1, (hp h4).2.trans h5⟩

theorem InitInv.keeps {s s' : BState} {p : Bool} (h : InitInv s p) (k : Keeps s s') : InitInv s' p :=
  h.transfer k.core fun hp => ⟨hp, k.cur⟩

/-- the duplicate-name check in front of `add_template` -/
theorem InitInv.errorWhen {s : BState} {p : Bool} {c : Prop} [Decidable c] (h : InitInv s p) :
    InitInv (if c then s.error else s) p := by
  split <;> exact h

theorem InitInv.append {s s' : BState} {p' : Bool} {Tn : Templ} (h : InitInv s false)
    (hT : s'.doc.templates = s.doc.templates ++ [Tn])
    (hn : Tn.isTA = true → Tn.dynamic = false → p' = true ∧ s'.currentTemplate = some s.doc.templates.length) :
    InitInv s' p' := by
  intro t T' hT' hta hdy
  rw [hT] at hT'
  rcases append_one_split hT' with ⟨_, ho⟩ | ⟨hi, rfl⟩
  · exact (h t T' ho hta hdy).imp_right fun h4 => nomatch h4.1
  · exact .inr (hi ▸ hn hta hdy)

theorem InitInv.setInit {s : BState} {p : Bool} (h : InitInv s p) {tc : Nat} (hc : s.currentTemplate = some tc) (sid : SymId) :
    InitInv { s with doc := s.doc.modifyTempl tc (fun T => { T with init := some sid }) } false := by
  intro t T' hT' hta hdy
  obtain ⟨T, hT, rfl⟩ := getElem?_modify_some hT'
  split
  · exact .inl rfl
  · rename_i he
    rw [if_neg he] at hta hdy
    refine (h t T hT hta hdy).imp_right fun h4 => ?_
    rw [hc] at h4
    exact absurd (Option.some.inj h4.2) he

theorem init_location_run (cs : List Call) : ∀ (s : BState) (p : Bool), InitInv s p → initShape p cs = true →
    (run s cs).diags = s.diags → InitInv (run s cs) false := by
  induction cs with
  | nil =>
    intro s p h hs _
    cases p
    · exact h
    · cases hs
  | cons c r ih =>
    intro s p h hs hd
    have hsame : (step s c).diags = s.diags :=
      Nat.le_antisymm (Nat.le_trans (diags_run r (step s c)) (Nat.le_of_eq hd)) (diags_step s c)
    have hrest : (run (step s c) r).diags = (step s c).diags := hd.trans hsame.symm
    clear hd
    show InitInv (run (step s c) r) false
    cases c
    case handleError => exact absurd hsame (Nat.succ_ne_self _)
    case procEnd =>
      cases p
      · exact ih _ false (h.transfer rfl nofun) hs hrest
      · cases hs
    case procLocationInit n =>
      refine ih _ false ?_ hs hrest
      dsimp only [step] at hsame ⊢
      split
      · split
        · rename_i hc
          exact h.setInit hc _
        · rename_i hc
          exact fun t T hT hta hdy => (h t T hT hta hdy).imp_right fun h4 => by rw [hc] at h4; exact nomatch h4.2
      · rename_i hne
        -- the name does not resolve to a location (`hne`): the step is `s.error`, one diagnostic more, against `hsame`
        split at hsame
        · rename_i heq
          exact absurd heq (hne _ _ _ _ _)
        · exact absurd hsame (Nat.succ_ne_self _)
    case declDynamicTemplate n =>
      cases p
      · have h0 : InitInv { s with currentTemplate := none } false := h.transfer rfl nofun
        exact ih _ false (h0.errorWhen.append rfl (fun _ hd => nomatch hd)) hs hrest
      · cases hs
    case procBegin n isTA =>
      cases p
      · refine ih _ isTA ?_ hs hrest
        dsimp only [step]
        split
        · exact h.transfer (map_modify_of_comp Templ.core (f := fun T => { T with isDefined := true }) fun _ => rfl) nofun
        · exact h.errorWhen.append rfl (fun hta _ => ⟨hta, rfl⟩)
      · cases hs
    all_goals exact ih _ p (h.keeps (step_keeps s _ rfl)) hs hrest

theorem InitInv_init : InitInv BState.init false := by
  intro t T hT; cases hT

end UtapModel.Builder
