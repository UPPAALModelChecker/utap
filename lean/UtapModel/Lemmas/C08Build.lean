/- Every callback of M-BUILD is a composition of a few elementary operations on the builder state (`Builds`,
   `step_builds`).  The invariants of C08 (and the prefix order of C16) are shown to be preserved operation by operation,
   so that their proofs never take `step` apart; only the initial-location clause looks at five callbacks again
   (`Call.isInitSpecial`, Lemmas/C08Init.lean).  In front stand the facts about `l ++ [x]`, `List.modify` and `symUser`
   that the invariant files share. -/
import UtapModel.Model.BuilderInv
import UtapModel.Lemmas.ListFacts

namespace UtapModel.Builder

theorem getElem?_lt_of_some {α} {l : List α} {i : Nat} {a : α} (h : l[i]? = some a) : i < l.length :=
  (List.getElem?_eq_some_iff.mp h).1

theorem getElem?_append_of_some {α} {l l' : List α} {i : Nat} {a : α} (h : l[i]? = some a) : (l ++ l')[i]? = some a :=
  (List.getElem?_append_left (getElem?_lt_of_some h)).trans h

theorem append_one_split {α} {l : List α} {x a : α} {i : Nat} (h : (l ++ [x])[i]? = some a) :
    (i < l.length ∧ l[i]? = some a) ∨ (i = l.length ∧ a = x) := by
  rcases Nat.lt_or_ge i l.length with hlt | hge
  · exact .inl ⟨hlt, (List.getElem?_append_left hlt).symm.trans h⟩
  · have hi := getElem?_lt_of_some h
    rw [List.length_append] at hi
    cases Nat.le_antisymm (Nat.le_of_lt_succ hi) hge
    exact .inr ⟨rfl, Option.some.inj (h.symm.trans List.getElem?_concat_length)⟩

theorem map_append_split {α β} {f : α → β} {l : List α} {x : α} {i : Nat} {b : β}
    (h : ((l ++ [x])[i]?).map f = some b) : (l[i]?).map f = some b ∨ (i = l.length ∧ b = f x) := by
  obtain ⟨v, hv, rfl⟩ := Option.map_eq_some_iff.mp h
  exact (append_one_split hv).imp (fun ho => congrArg (Option.map f) ho.2) (fun hx => ⟨hx.1, congrArg f hx.2⟩)

theorem map_append_mono {α β} {f : α → β} {l : List α} {x : α} {i : Nat} {b : β}
    (h : (l[i]?).map f = some b) : ((l ++ [x])[i]?).map f = some b := by
  obtain ⟨v, hv, rfl⟩ := Option.map_eq_some_iff.mp h
  exact congrArg (Option.map f) (getElem?_append_of_some hv)

theorem map_modify_of_comp {α β} (g : α → β) {f : α → α} (hg : ∀ a, g (f a) = g a) {l : List α} {t : Nat} :
    (l.modify t f).map g = l.map g := by
  apply List.ext_getElem?
  intro i
  simp only [List.getElem?_map, List.getElem?_modify]
  cases l[i]? with
  | none => rfl
  | some a => by_cases h : t = i <;> simp [h, hg]

theorem getElem?_modify_rel {α} {R : α → α → Prop} (hrefl : ∀ a, R a a) {g : α → α} (hg : ∀ a, R (g a) a) {l : List α} {i j : Nat}
    {a' : α} (h : (l.modify i g)[j]? = some a') : ∃ a, l[j]? = some a ∧ R a' a := by
  obtain ⟨a, ha, rfl⟩ := getElem?_modify_some h
  refine ⟨a, ha, ?_⟩
  split
  · exact hg a
  · exact hrefl a

theorem symUser_eq {syms : List Symbol} {sid : SymId} {sym : Symbol} (h : syms[sid]? = some sym) : symUser syms sid = sym.user :=
  congrArg (Option.bind · Symbol.user) h

theorem symUser_append {syms : List Symbol} {new : List Symbol} {sid : SymId} {r : Obj} (h : symUser syms sid = some r) :
    symUser (syms ++ new) sid = some r := by
  obtain ⟨sym, hs, hu⟩ := Option.bind_eq_some_iff.mp h
  exact Option.bind_eq_some_iff.mpr ⟨sym, getElem?_append_of_some hs, hu⟩

/-- the types of symbols that carry no object obligations -/
def STy.plain (ty : STy) : Prop :=
  ty.isLocation = false ∧ ty.isBranchpoint = false ∧ ∀ a, ty ≠ .inst a ∧ ty ≠ .lscInst a

theorem plain_var (t : Ty) : (STy.var t).plain := ⟨rfl, rfl, fun _ => ⟨nofun, nofun⟩⟩
theorem plain_typedef (t : Ty) : (STy.typedef t).plain := ⟨rfl, rfl, fun _ => ⟨nofun, nofun⟩⟩
theorem plain_processVar : STy.processVar.plain := ⟨rfl, rfl, fun _ => ⟨nofun, nofun⟩⟩

/-- `push_frame(frame_t::create(frames.top()))`, the new frame pre-filled with `l` -/
def BState.pushChild (s : BState) (l : List SymId) : BState := (s.newFrame (some s.top) l).1.pushFrame s.store.length

/-- `params.move_to(frames.top())` -/
def BState.moveParams (s : BState) : BState :=
  { s with store := (addToFrame s.store s.top (s.frameD s.params).syms).modify s.params (fun f => { f with syms := [] }) }

/-- `params = frame_t::create()` -/
def BState.resetParams (s : BState) : BState := { (s.newFrame none).1 with params := s.store.length }

/-- what a label callback leaves alone -/
abbrev Edge.sameEnds (e' e : Edge) : Prop :=
  e'.nr = e.nr ∧ e'.src = e.src ∧ e'.srcb = e.srcb ∧ e'.dst = e.dst ∧ e'.dstb = e.dstb

theorem Edge.sameEnds.refl (e : Edge) : e.sameEnds e := ⟨rfl, rfl, rfl, rfl, rfl⟩

/-- the callbacks that open or close a template, set its initial location or record a diagnostic of the reader -/
def Call.isInitSpecial : Call → Bool
  | .procBegin _ _ | .procEnd | .procLocationInit _ | .handleError | .declDynamicTemplate _ => true
  | _ => false

/-- `Builds safe special s s'`: the builder gets from `s` to `s'` by elementary operations, each with what `step` knows at
    the point where it performs it.  `safe` stands for the callers' discipline (`safeCall`; only `pop` asks for it),
    `special` for "this is one of the callbacks of `Call.isInitSpecial`" (only they open or close a template or set
    its initial location). -/
inductive Builds (safe special : Prop) : BState → BState → Prop
  | refl (s : BState) : Builds safe special s s
  | trans {a b c : BState} : Builds safe special a b → Builds safe special b c → Builds safe special a c
  /-- the expression and type stacks, `currentEdge`, `currentFun`, `binds`, the counters; diagnostics only accumulate -/
  | quiet {s s' : BState} (h1 : s'.syms = s.syms := by rfl) (h2 : s'.store = s.store := by rfl)
      (h3 : s'.frames = s.frames := by rfl) (h4 : s'.params = s.params := by rfl)
      (h5 : s'.currentTemplate = s.currentTemplate := by rfl) (h6 : s'.doc = s.doc := by rfl)
      (h7 : s.diags ≤ s'.diags := by exact Nat.le_refl _) : Builds safe special s s'
  | addSymbol (s : BState) (f : FrameId) (n : String) {ty : STy} (hp : ty.plain) : Builds safe special s (s.addSymbol f n ty none).1
  | pushChild (s : BState) {l : List SymId} (hl : l = [] ∨ l = (s.frameD s.params).syms) : Builds safe special s (s.pushChild l)
  | pop (s : BState)
      (h : safe → ∀ t T, s.currentTemplate = some t → s.doc.templates[t]? = some T → s.frames.head? ≠ some T.frame) :
      Builds safe special s s.popFrame
  | moveParams (s : BState) : Builds safe special s s.moveParams
  /-- decl_external_func: the frame that receives the parameters is popped at once, and no function is current any more -/
  | paramsAside (s : BState) : Builds safe special s { s.pushNewFrame.moveParams.popFrame with currentFun := none }
  | resetParams (s : BState) : Builds safe special s s.resetParams
  | leave (s : BState) (h : special) : Builds safe special s { s with currentTemplate := none }
  | enter (s : BState) {t : Nat} (ht : t < s.doc.templates.length) (h : special) :
      Builds safe special s ({ s with currentTemplate := some t }.pushFrame (s.declFrame (.templ t)))
  | addTemplate (s : BState) (n : String) (isTA dyn : Bool) (h : special) : Builds safe special s (s.addTemplate n isTA dyn).1
  | defineTempl (s : BState) (t : Nat) :
      Builds safe special s { s with doc := s.doc.modifyTempl t (fun T => { T with isDefined := true }) }
  | setInit (s : BState) {t : Nat} {n : String} {sid : SymId} {sym : Symbol} (hc : s.currentTemplate = some t)
      (hr : s.resolveSym n = some (sid, sym)) (hl : sym.ty.isLocation = true) (h : special) :
      Builds safe special s { s with doc := s.doc.modifyTempl t (fun T => { T with init := some sid }) }
  | addVar (s : BState) (fr : FrameId) (n : String) (ty : Ty) (owner : VOwner) :
      Builds safe special s { (s.addSymbol fr n (.var ty) (some (.var s.doc.vars.length))).1 with
        doc := { s.doc with vars := s.doc.vars ++ [⟨s.syms.length, owner⟩] } }
  | addFunction (s : BState) (n : String) : Builds safe special s (s.addFunction n).1
  | addLoc (s : BState) {t : Nat} {T : Templ} (hT : s.doc.templates[t]? = some T) (n : String) (a b : Bool) :
      Builds safe special s { (s.addSymbol T.frame n (.location false false) (some (.loc s.doc.locs.length))).1 with
        doc := { s.doc with locs := s.doc.locs ++ [⟨s.syms.length, t, (s.doc.locs.filter (·.templ = t)).length, a, b⟩] } }
  | addBp (s : BState) {t : Nat} {T : Templ} (hT : s.doc.templates[t]? = some T) (n : String) :
      Builds safe special s { (s.addSymbol T.frame n .branchpoint (some (.bp s.doc.bps.length))).1 with
        doc := { s.doc with bps := s.doc.bps ++ [⟨s.syms.length, t, (s.doc.bps.filter (·.templ = t)).length⟩] } }
  | setSymTy (s : BState) {n : String} {sid : SymId} {sym : Symbol} (hr : s.resolveSym n = some (sid, sym))
      (hl : sym.ty.isLocation = true) (u c : Bool) : Builds safe special s (s.setSymTy sid (.location u c))
  | addEdge (s : BState) {t : Nat} {a b : String} {fs ts : Symbol} (hc : s.currentTemplate = some t)
      (hf : s.resolveEndpoint a = some fs) (ht : s.resolveEndpoint b = some ts) (c : Bool) (fr : FrameId) (g u p : Expr) :
      Builds safe special s
        { s with doc := s.doc.modifyTempl t (fun T => { T with edges := T.edges ++ [mkEdge T.edges fs ts c fr g u p] }) }
  /-- a label callback: guard / sync / assign / prob of one edge -/
  | relabel (s : BState) (t i : Nat) {g : Edge → Edge} (hg : ∀ ed, (g ed).sameEnds ed) :
      Builds safe special s { s with doc := s.doc.modifyTempl t (fun T => { T with edges := T.edges.modify i g }) }
  | addInstance (s : BState) {n : String} {sid : SymId} {sym : Symbol} {a : Nat} {old : Inst} {es : List Expr}
      (hr : s.resolveSym n = some (sid, sym)) (lsc : Bool) (hty : sym.ty = if lsc then .lscInst a else .inst a)
      (hold : sym.user.bind s.doc.inst? = some old) (hlen : es.length = a) (name : String) (ps : List SymId) :
      Builds safe special s (s.addInstance lsc name old ps es)
  | addProcess (s : BState) {n : String} {sid : SymId} {sym : Symbol} {a : Nat} {inst : Inst}
      (hr : s.resolveSym n = some (sid, sym)) (hty : sym.ty = .inst a) (hold : sym.user.bind s.doc.inst? = some inst) :
      Builds safe special s (s.addProcess inst)

namespace Builds
variable {safe special : Prop}

theorem ite {c : Prop} [Decidable c] {s a b : BState} (ha : Builds safe special s a) (hb : Builds safe special s b) :
    Builds safe special s (if c then a else b) := by
  split <;> assumption

/-- `handle_error` inside a callback -/
theorem error (s : BState) : Builds safe special s s.error := .quiet (h7 := Nat.le_succ _)

theorem errorWhen {c : Prop} [Decidable c] (s : BState) : Builds safe special s (if c then s.error else s) :=
  .ite (error s) (.refl s)

/-- instance_name_begin / instantiation_begin: the parameters collected so far go into a new frame on the stack -/
theorem paramFrame (s : BState) : Builds safe special s (s.pushChild (s.frameD s.params).syms).resetParams :=
  .trans (.pushChild s (.inr rfl)) (.resetParams _)

theorem addVariable (s : BState) (ty : Ty) (n : String) : Builds safe special s (s.addVariable ty n).1 := by
  unfold BState.addVariable
  cases s.currentFun <;> exact .addVar s _ n ty _

theorem addLocation (s : BState) (t : Nat) (n : String) (a b : Bool) : Builds safe special s (s.addLocation t n a b).1 := by
  unfold BState.addLocation
  split
  · exact .refl s
  · exact .addLoc s (by assumption) n a b

theorem addBranchpoint (s : BState) (t : Nat) (n : String) : Builds safe special s (s.addBranchpoint t n).1 := by
  unfold BState.addBranchpoint
  split
  · exact .refl s
  · exact .addBp s (by assumption) n

theorem addSelectSymbol (s : BState) (n : String) (fr : Option FrameId) : Builds safe special s (s.addSelectSymbol n fr) := by
  unfold BState.addSelectSymbol
  refine .trans (.quiet (s' := s.popType.1)) (.ite (error _) ?_)
  cases fr with
  | some f => exact .trans (.ite .quiet (.refl _)) (.addSymbol _ f n (plain_var _))
  | none => exact .ite .quiet (.refl _)

theorem setEdge (s : BState) {f : Edge → Expr → Edge} (hf : ∀ ed e, (f ed e).sameEnds ed) :
    Builds safe special s (s.setEdge f) := by
  unfold BState.setEdge
  split
  · exact error s
  · exact .trans (.quiet (s' := s.popFrag)) (.relabel _ _ _ (fun ed => hf ed _))

/-- instantiation_end once the template name is resolved: a diagnostic unless the number of arguments is the arity -/
theorem instantiate (s : BState) {tn nm : String} {sid : SymId} {lsc : Bool} {a : Nat} {user : Option Obj}
    (hr : s.resolveSym tn = some (sid, ⟨nm, if lsc then .lscInst a else .inst a, user⟩)) (k : Nat) (n : String) (ps : List SymId) :
    Builds safe special s
      (if k < a then s.error.popFrag k
       else if k > a then s.error.popFrag k
       else match user.bind s.doc.inst? with
         | some old => (s.popFrag k).addInstance lsc n old ps ((List.range k).map (fun i => s.fragments.getD (k - 1 - i) 0))
         | none => s.popFrag k) := by
  split
  · exact .trans (error _) .quiet
  · split
    · exact .trans (error _) .quiet
    · split
      · rename_i h1 h2 _ _ hold
        exact .trans (.quiet (s' := s.popFrag k)) <| .addInstance (s.popFrag k) hr lsc rfl hold
          ((List.length_map ..).trans (List.length_range.trans (Nat.le_antisymm (Nat.le_of_not_gt h2) (Nat.le_of_not_gt h1)))) n _
      · exact .quiet

end Builds

theorem resolveSym_spec {s : BState} {name : String} {sid : SymId} {sym : Symbol} (h : s.resolveSym name = some (sid, sym)) :
    s.resolve name = some sid ∧ s.sym? sid = some sym := by
  unfold BState.resolveSym at h
  split at h
  · cases h
  · split at h
    · cases h
    · rename_i hr _ _ hs; cases h; exact ⟨hr, hs⟩

theorem resolveSym_sym {s : BState} {name : String} {sid : SymId} {sym : Symbol} (h : s.resolveSym name = some (sid, sym)) :
    s.sym? sid = some sym := (resolveSym_spec h).2

theorem resolveEndpoint_resolveSym {s : BState} {name : String} {sym : Symbol} (h : s.resolveEndpoint name = some sym) :
    ∃ sid, s.resolveSym name = some (sid, sym) ∧ (sym.ty.isLocation ∨ sym.ty.isBranchpoint) := by
  unfold BState.resolveEndpoint at h
  split at h
  · rename_i sid sym' hr
    split at h
    · cases h; rename_i hc; exact ⟨sid, hr, by simpa using hc⟩
    · cases h
  · cases h

/-- what `safeCall` asks of a popping callback (other than `proc_end` and `decl_external_func`): the frame on top is not
    the frame of the template being parsed -/
theorem safeCall_pop {s : BState}
    (h : (decide (s.frames.length ≥ 2) && (match s.currentTemplate.bind (fun t => s.doc.templates[t]?) with
        | some T => s.top != T.frame
        | none => true)) = true) :
    ∀ t T, s.currentTemplate = some t → s.doc.templates[t]? = some T → s.frames.head? ≠ some T.frame := by
  intro t T hc hT hhead
  simp only [Bool.and_eq_true, hc, Option.bind_some, hT] at h
  have : s.top = T.frame := by
    unfold BState.top
    cases hf : s.frames with
    | nil => rw [hf] at hhead; cases hhead
    | cons a as => rw [hf] at hhead; cases hhead; rfl
  simp [this] at h

theorem addTemplate_idx_lt (s : BState) (n : String) (a b : Bool) :
    (s.addTemplate n a b).2 < (s.addTemplate n a b).1.doc.templates.length := by
  simp [BState.addTemplate, BState.addSymbol, BState.newFrame]

theorem step_builds (s : BState) (c : Call) : Builds (safeCall s c = true) (c.isInitSpecial = true) s (step s c) := by
  cases c <;> dsimp only [step]
  case handleError => exact .error s
  case quantBegin n =>
    exact .trans (.quiet (s' := s.popType.1)) <| .trans (.pushChild _ (.inl rfl)) <|
      .trans (.addSymbol _ _ n (plain_var _)) (.quiet (h7 := Nat.le_add_right _ _))
  case dynQuantBegin n => exact .trans (.pushChild s (.inl rfl)) (.addSymbol _ _ n plain_processVar)
  case quantEnd | dynQuantEnd | declFuncEnd | blockEnd | iterationEnd | procEdgeEnd | ganttDeclEnd | ganttEntryEnd | instanceNameEnd =>
    exact .trans (.pop s fun h => safeCall_pop h) .quiet
  case blockBegin | ganttDeclBegin | ganttEntryBegin => exact .pushChild s (.inl rfl)
  case typeName n => split <;> exact .quiet
  case declTypedef n =>
    exact .trans (.quiet (s' := s.popType.1)) (.ite (.refl _) (.addSymbol _ _ n (plain_typedef _)))
  case declVar n i =>
    cases i
    · exact .trans (.quiet (s' := s.popType.1)) (.addVariable _ _ n)
    · exact .trans (.quiet (s' := s.popFrag.popType.1)) (.addVariable _ _ n)
  case declParameter n => exact .trans (.quiet (s' := s.popType.1)) (.addSymbol _ _ n (plain_var _))
  case declFuncBegin n =>
    exact .trans (.quiet (s' := ({ s with currentFun := none } : BState).popType.1)) <| .trans (.addFunction _ n) <|
      .trans (.errorWhen _) <| .trans (.pushChild _ (.inl rfl)) (.moveParams _)
  case declExternalFunc n =>
    exact .trans (.quiet (s' := s.popType.1)) <| .trans (.addFunction _ n) <| .trans (.errorWhen _) (.paramsAside _)
  case declDynamicTemplate n =>
    exact .trans (.leave s rfl) <| .trans (.errorWhen _) <| .trans (.addTemplate _ n true true rfl) (.resetParams _)
  case iterationBegin n =>
    exact .trans (.quiet (s' := s.popType.1)) <| .trans (.pushChild _ (.inl rfl)) (.addVariable _ _ n)
  case returnStatement a =>
    split
    · exact .error s
    · exact .ite .quiet (.refl s)
  case procBegin n isTA =>
    split
    · rename_i t ht
      refine .trans (.defineTempl s t) <| .trans (.enter _ ?_ rfl) (.resetParams _)
      simpa [Doc.modifyTempl] using (List.findIdx?_eq_some_iff_getElem.mp ht).1
    · exact .trans (.errorWhen s) <| .trans (.addTemplate _ n isTA false rfl) <|
        .trans (.enter _ (addTemplate_idx_lt _ n isTA false) rfl) (.resetParams _)
  case procEnd => exact .trans (.leave s rfl) (.pop _ fun _ _ _ hc => nomatch hc)
  case procLocation n a b =>
    split
    · exact .trans (.ite .quiet (.refl s)) (.ite .quiet (.refl _))
    · exact .trans (.trans (.ite .quiet (.refl s)) (.ite .quiet (.refl _))) (.addLocation _ _ n a b)
  case procLocationCommit n | procLocationUrgent n =>
    split
    · rename_i hr
      exact .ite (.error s) (.setSymTy s hr rfl _ _)
    · exact .error s
  case procLocationInit n =>
    split
    · rename_i hr
      split
      · rename_i hc
        exact .setInit s hc hr rfl rfl
      · exact .refl s
    · exact .error s
  case procBranchpoint n =>
    split
    · exact .refl s
    · exact .addBranchpoint s _ n
  case procEdgeBegin a b c =>
    -- left folded, the three `fresh` are worked through by the unifier in each `exact` below, which is slow to check
    dsimp only [BState.fresh]
    split
    · rename_i hf ht hc
      exact .trans (.addEdge s hc hf ht c s.store.length s.nextExpr (s.nextExpr + 1) (s.nextExpr + 1 + 1)) <|
        .trans (.pushChild _ (.inl rfl)) .quiet
    · exact .pushChild s (.inl rfl)
    · exact .trans (.error s) <| .trans (.quiet (s' := { s.error with currentEdge := none })) (.pushChild _ (.inl rfl))
  case procSelect n =>
    split
    · exact .error s
    · exact .addSelectSymbol s n _
  case ganttSelect n => exact .addSelectSymbol s n (some s.top)
  case procGuard | procUpdate | procProb =>
    exact .setEdge s fun _ _ => ⟨rfl, rfl, rfl, rfl, rfl⟩
  case procSync =>
    split
    · exact .error s
    · exact .trans (.quiet (s' := s.fresh.1)) (.setEdge _ fun _ _ => ⟨rfl, rfl, rfl, rfl, rfl⟩)
  case instanceNameBegin => exact .paramFrame s
  case instantiationBegin n tn =>
    split
    · exact .trans (.errorWhen s) (.paramFrame _)
    · exact .trans (.errorWhen s) (.paramFrame _)
    · exact .trans (.errorWhen s) <| .trans (.error _) (.paramFrame _)
  case instantiationEnd n tn k =>
    refine .trans (.pop s fun h => safeCall_pop h) ?_
    split
    · rename_i hr
      exact .instantiate _ (lsc := false) hr k n _
    · rename_i hr
      exact .instantiate _ (lsc := true) hr k n _
    · exact .quiet
  case process n =>
    split
    · rename_i hr
      split
      · rename_i hold
        exact .addProcess s hr rfl hold
      · exact .refl s
    · exact .refl s
  -- the other callbacks touch only what `quiet` leaves free
  all_goals exact .quiet

theorem run_inv {P : BState → Prop} (hstep : ∀ s c, P s → P (step s c)) (cs : List Call) : ∀ s, P s → P (run s cs) := by
  induction cs with
  | nil => exact fun _ h => h
  | cons c cs ih => exact fun s h => ih (step s c) (hstep s c h)

end UtapModel.Builder
