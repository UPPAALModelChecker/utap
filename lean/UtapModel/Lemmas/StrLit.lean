/- The string-literal round trip (C03): `unescape` undoes `escape` (`std::quoted` read back) on every value; escaping a value
   without a quote adds none, so the lexer's span runs up to the closing quote. -/
import UtapModel.Model.StrLit
namespace UtapModel.StrLit

def NoQuote (s : List Char) : Prop := ∀ c ∈ s, c ≠ dq

theorem noQuote_escape (s : List Char) (h : NoQuote s) : NoQuote (escape s) := by
  induction s with
  | nil => exact h
  | cons a r ih =>
    have ⟨ha, hr⟩ := List.forall_mem_cons.mp h
    simp only [escape]
    split
    · exact List.forall_mem_cons.mpr ⟨by decide, List.forall_mem_cons.mpr ⟨ha, ih hr⟩⟩
    · exact List.forall_mem_cons.mpr ⟨ha, ih hr⟩

theorem escape_ne_nil (s : List Char) (hs : s ≠ []) : escape s ≠ [] := by
  cases s with
  | nil => exact absurd rfl hs
  | cons a r => simp only [escape]; split <;> simp

theorem spanNoQuote_append (a rest : List Char) (h : NoQuote a) : spanNoQuote (a ++ dq :: rest) = (a, dq :: rest) := by
  induction a with
  | nil => simp [spanNoQuote]
  | cons c r ih =>
    have ⟨hc, hr⟩ := List.forall_mem_cons.mp h
    simp only [List.cons_append, spanNoQuote, beq_eq_false_iff_ne.mpr hc, Bool.false_eq_true, if_false, ih hr]

theorem unescape_dq (r : List Char) : unescape (dq :: r) = [] := by
  rw [unescape.eq_def]; simp

theorem unescape_bs (d : Char) (r : List Char) : unescape (bs :: d :: r) = d :: unescape r := by
  rw [unescape.eq_def]; simp [show (bs == dq) = false by decide]

theorem unescape_other (c : Char) (r : List Char) (h1 : (c == dq) = false) (h2 : (c == bs) = false) :
    unescape (c :: r) = c :: unescape r := by
  rw [unescape.eq_def]; simp [h1, h2]

theorem unescape_escape (s rest : List Char) : unescape (escape s ++ dq :: rest) = s := by
  induction s with
  | nil => exact unescape_dq rest
  | cons c r ih =>
    simp only [escape]
    split
    · rw [List.cons_append, List.cons_append, unescape_bs, ih]
    · rename_i h
      simp only [Bool.or_eq_true, not_or, Bool.not_eq_true] at h
      rw [List.cons_append, unescape_other c _ h.1 h.2, ih]

end UtapModel.StrLit
