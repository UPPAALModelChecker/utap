/- Basics shared by the C14 and C10 lemma files: `∀ k : TK` is decidable (complete finite table), `type_t::is` on a
   leaf kind is a function of the terminal kind of the type, and so is every regenerated predicate the rules ask of
   their operands. -/
import UtapModel.Gen.TypeClauses
namespace UtapModel.TypeBasics
open UtapModel.Types UtapModel.TypeClauses

/-- `TK.all` lists the kinds in the order of their declaration -/
theorem TK.mem_all (k : TK) : k ∈ TK.all := List.mem_of_getElem? (i := k.ctorIdx) (by cases k <;> rfl)

/-- Low priority: a bounded quantifier `∀ k ∈ o, ..` over an `Option` or a `List` is decided by its own instance,
    without going through all kinds. -/
instance (priority := low) instDecidableForallTK (p : TK → Prop) [DecidablePred p] : Decidable (∀ k, p k) :=
  decidable_of_iff (∀ k ∈ TK.all, p k) ⟨fun h k => h k (TK.mem_all k), fun h k _ => h k⟩

/-- kinds that only ever sit at the end of a prefix / REF / LABEL / RANGE chain -/
def TK.leaf : TK → Bool
  | .REF | .RANGE | .LABEL | .CONSTANT | .SYSTEM_META | .URGENT | .BROADCAST | .COMMITTED | .HYBRID => false
  | _ => true

theorem leaf_ne {k k' : TK} (h : TK.leaf k = true) (h' : TK.leaf k' = false) : k ≠ k' :=
  fun e => by rw [e, h'] at h; cases h

theorem pfx_not_leaf (p : Pfx) : TK.leaf p.toTK = false := by cases p <;> rfl

theorem is_term : ∀ (t : Ty) (k : TK), TK.leaf k = true → t.is k = (t.term == k)
  | .prim _, _, _ => rfl
  | .pfx p t, k, h => by simp [Ty.is, Ty.term, is_term t k h, (leaf_ne h (pfx_not_leaf p)).symm]
  | .ref t, k, h => by simp [Ty.is, Ty.term, is_term t k h, leaf_ne h (k' := .REF) rfl]
  | .label _ t, k, h => by simp [Ty.is, Ty.term, is_term t k h, leaf_ne h (k' := .LABEL) rfl]
  | .range t _ _, k, h => by simp [Ty.is, Ty.term, is_term t k h, leaf_ne h (k' := .RANGE) rfl]
  | .array _ _, _, _ => BEq.comm
  | .record _, _, _ => BEq.comm

theorem term_prim (k : TK) : (Ty.prim k).term = k := rfl

/-! `onKind p k` is `p` asked of the bare kind `k`, and `TermOnly p` says that this is all there is to `p`.  Every predicate
the rules ask of an operand is a boolean combination of `is` on leaf kinds, whatever the current source makes it;
rewriting with `preds_termOnly` turns a rule applied to arbitrary types into a function of their terminal kinds. -/
def onKind (p : Ty → Bool) (k : TK) : Bool := p (.prim k)

abbrev TermOnly (p : Ty → Bool) : Prop := ∀ t, p t = onKind p t.term

/-- As a `simp` lemma this is one rewrite rule per predicate. -/
theorem preds_termOnly :
    TermOnly ty_is_integer ∧ TermOnly ty_isBoolean ∧ TermOnly ty_is_clock ∧ TermOnly ty_is_channel ∧
    TermOnly ty_is_record ∧ TermOnly ty_is_array ∧ TermOnly ty_is_scalar ∧ TermOnly ty_is_double ∧
    TermOnly ty_is_string ∧ TermOnly ty_is_integral ∧ TermOnly h_isCost ∧ TermOnly h_is_integer ∧ TermOnly h_isBound ∧
    TermOnly h_is_integral ∧ TermOnly h_is_clock ∧ TermOnly h_is_diff ∧ TermOnly h_is_double_value ∧
    TermOnly h_is_number ∧ TermOnly h_is_invariant ∧ TermOnly h_is_guard ∧ TermOnly h_is_constraint ∧
    TermOnly h_is_formula ∧ TermOnly h_isInvariantWR := by
  unfold TermOnly onKind
  unfold_type_preds
  simp (disch := decide) only [is_term, term_prim, implies_true, and_self]

end UtapModel.TypeBasics
