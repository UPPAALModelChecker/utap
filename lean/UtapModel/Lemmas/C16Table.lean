/- The facts C16 reads off the generated grammar table (Gen/C16Grammar.lean), by evaluation. -/
import UtapModel.Lemmas.C16
import UtapModel.Lemmas.C16Reach

namespace UtapModel.Builder
open UtapModel.C16 UtapModel.C16Grammar

/-- The two readings of the label part of the generated grammar table that C16 rests on.  Both ask which left sides are
    in `C16.labelNonterminals`, the closure of the label entry points under the productions; the kernel computes that
    closure by `C16.sweep` instead, once for both, and checks what makes the two agree. -/
theorem label_grammar :
    UtapModel.C16.labelCallbacks.filter (fun c => !(UtapModel.C16.callOf c).any Call.isExprCall) = ["proc_sync"] ∧
    UtapModel.C16.exceptionShapes =
      ["expr_sum_begin", "expr_forall_begin", "expr_exists_begin", "expr_forall_dynamic_begin", "expr_exists_dynamic_begin",
       "expr_sum_dynamic_begin", "expr_foreach_dynamic_begin"] := by
  unfold labelCallbacks exceptionShapes
  -- `_`: the goal with the membership test of the swept list for `labelNonterminals.contains`.  In front of it, what
  -- `contains_reachOf_eq_sweep` asks of the swept list (40 is the fuel of `labelNonterminals`).  Any fuel would do for
  -- `sweep`: `closedB` checks that its result is closed, and a sweep cut short fails that check.  One evaluation for all.
  suffices h : (closedB (ntOf productions) productions (sweep (ntOf productions) productions productions.length 0 labelEntries) = true ∧
      (sweep (ntOf productions) productions productions.length 0 labelEntries).length < labelEntries.length + 40) ∧ _ by
    rw [labelNonterminals, reach_eq_reachOf, contains_reachOf_eq_sweep (by decide) h.1.1 h.1.2]
    exact h.2
  decide +kernel

end UtapModel.Builder
