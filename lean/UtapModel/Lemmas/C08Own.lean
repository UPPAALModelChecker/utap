/- Own-template clauses of C08 (edge endpoints, initial location): invariant `OwnT`, preserved by every elementary
   operation given the scope invariant (`Builds.ownT`).  Objects and symbols only accumulate (`Grows`, Lemmas/C16.lean), so
   what was own stays own. -/
import UtapModel.Lemmas.C08Scope
import UtapModel.Lemmas.C16
namespace UtapModel.Builder

/-- an endpoint pointer (if set) denotes a location / branchpoint of template t -/
def ownEnd (v : View) (t : Nat) (o : Option Obj) : Prop := ∀ x, o = some x → v.objTempl (some x) = some t

def Edge.own (v : View) (t : Nat) (e : Edge) : Prop :=
  ownEnd v t e.src ∧ ownEnd v t e.srcb ∧ ownEnd v t e.dst ∧ ownEnd v t e.dstb

/-- `sid` is a location symbol, and its location belongs to template t -/
def ownInit (s : BState) (t : Nat) (sid : SymId) : Prop :=
  s.view.objTempl (symUser s.syms sid) = some t ∧ ∃ sym : Symbol, s.syms[sid]? = some sym ∧ sym.ty.isLocation = true

/-- every edge's source and target belong to the edge's own template; a template's initial location is one of its own -/
structure OwnT (s : BState) : Prop where
  edges : ∀ (t : Nat) (T : Templ) (e : Edge), s.doc.templates[t]? = some T → e ∈ T.edges → e.own s.view t
  init : ∀ (t : Nat) (T : Templ) (sid : SymId), s.doc.templates[t]? = some T → T.init = some sid → ownInit s t sid

theorem objTempl_loc {s : BState} {i t : Nat} (h : s.view.objTempl (some (.loc i)) = some t) :
    ∃ l, s.doc.locs[i]? = some l ∧ l.templ = t := by
  simpa only [View.objTempl, BState.view, List.getElem?_map, Option.map_eq_some_iff] using h

theorem objTempl_bp {s : BState} {i t : Nat} (h : s.view.objTempl (some (.bp i)) = some t) :
    ∃ b, s.doc.bps[i]? = some b ∧ b.templ = t := by
  simpa only [View.objTempl, BState.view, List.getElem?_map, Option.map_eq_some_iff] using h

/-- the two pointers `mkEdge` derives from an endpoint symbol -/
theorem ownEnd_ite {v : View} {t : Nat} {c : Prop} [Decidable c] {u : Option Obj} (h : v.objTempl u = some t) :
    ownEnd v t (if c then u else none) ∧ ownEnd v t (if c then none else u) := by
  split
  · exact ⟨fun _ hx => hx ▸ h, nofun⟩
  · exact ⟨nofun, fun _ hx => hx ▸ h⟩

theorem objTempl_mono {s s' : BState} (g : Grows s s') {o : Option Obj} {t : Nat} (h : s.view.objTempl o = some t) :
    s'.view.objTempl o = some t :=
  View.objTempl_mono (g.locs.map _) (g.bps.map _) h

theorem Edge.own_mono {s s' : BState} (g : Grows s s') {t : Nat} {e : Edge} (h : e.own s.view t) : e.own s'.view t :=
  ⟨fun x hx => objTempl_mono g (h.1 x hx), fun x hx => objTempl_mono g (h.2.1 x hx),
   fun x hx => objTempl_mono g (h.2.2.1 x hx), fun x hx => objTempl_mono g (h.2.2.2 x hx)⟩

theorem ownInit_mono {s s' : BState} (g : Grows s s') {t : Nat} {sid : SymId} (h : ownInit s t sid) : ownInit s' t sid := by
  obtain ⟨ho, sym, hs, hl⟩ := h
  obtain ⟨sym', hs', _, hu, hl'⟩ := g.syms sid sym hs
  refine ⟨?_, sym', hs', hl' hl⟩
  rw [symUser_eq hs', hu, ← symUser_eq hs]; exact objTempl_mono g ho

theorem OwnT.transfer {s s' : BState} (h : OwnT s) (g : Grows s s')
    (he : ∀ (t : Nat) (T' : Templ) (e : Edge), s'.doc.templates[t]? = some T' → e ∈ T'.edges →
      e.own s'.view t ∨ ∃ T, s.doc.templates[t]? = some T ∧ e ∈ T.edges)
    (hi : ∀ (t : Nat) (T' : Templ) (sid : SymId), s'.doc.templates[t]? = some T' → T'.init = some sid →
      ownInit s' t sid ∨ ∃ T, s.doc.templates[t]? = some T ∧ T.init = some sid) : OwnT s' :=
  ⟨fun t T' e hT' hm => (he t T' e hT' hm).elim id fun ⟨T, hT, hm⟩ => Edge.own_mono g (h.edges t T e hT hm),
   fun t T' sid hT' hs => (hi t T' sid hT' hs).elim id fun ⟨T, hT, hs⟩ => ownInit_mono g (h.init t T sid hT hs)⟩

theorem OwnT.same {s s' : BState} (h : OwnT s) (g : Grows s s') (hT : s'.doc.templates = s.doc.templates) : OwnT s' :=
  h.transfer g (fun _ T' _ hT' hm => .inr ⟨T', hT ▸ hT', hm⟩) (fun _ T' _ hT' hs => .inr ⟨T', hT ▸ hT', hs⟩)

theorem OwnT_init : OwnT BState.init :=
  ⟨fun _ _ _ hT => (nomatch hT), fun _ _ _ hT => (nomatch hT)⟩

theorem ownT_modifyTempl {s s' : BState} (h : OwnT s) (g : Grows s s') (t : Nat) (f : Templ → Templ)
    (hs : s'.doc.templates = s.doc.templates.modify t f)
    (hfe : ∀ T e, s.doc.templates[t]? = some T → e ∈ (f T).edges → e.own s'.view t ∨ e ∈ T.edges)
    (hfi : ∀ T sid, s.doc.templates[t]? = some T → (f T).init = some sid → ownInit s' t sid ∨ T.init = some sid) : OwnT s' := by
  refine h.transfer g ?_ ?_
  · intro t' T' e hT' hm
    rcases getElem?_modify_cases (hs ▸ hT') with ho | ⟨rfl, T, hT, rfl⟩
    · exact .inr ⟨_, ho, hm⟩
    · exact (hfe T e hT hm).imp_right fun hm => ⟨T, hT, hm⟩
  · intro t' T' sid hT' hi
    rcases getElem?_modify_cases (hs ▸ hT') with ho | ⟨rfl, T, hT, rfl⟩
    · exact .inr ⟨_, ho, hi⟩
    · exact (hfi T sid hT hi).imp_right fun hi => ⟨T, hT, hi⟩

theorem ownT_appendTempl {s s' : BState} (h : OwnT s) (g : Grows s s') (Tn : Templ)
    (hs : s'.doc.templates = s.doc.templates ++ [Tn]) (he : Tn.edges = []) (hi : Tn.init = none) : OwnT s' := by
  refine h.transfer g ?_ ?_
  · intro t' T' e hT' hm
    rw [hs] at hT'
    rcases append_one_split hT' with ⟨_, ho⟩ | ⟨_, rfl⟩
    · exact .inr ⟨T', ho, hm⟩
    · rw [he] at hm; cases hm
  · intro t' T' sid hT' hi'
    rw [hs] at hT'
    rcases append_one_split hT' with ⟨_, ho⟩ | ⟨_, rfl⟩
    · exact .inr ⟨T', ho, hi'⟩
    · rw [hi] at hi'; cases hi'

theorem mkEdge_own {s : BState} (h2 : Inv2 s.view) {t : Nat} (hc : s.currentTemplate = some t) {a b : String} {fs ts : Symbol}
    (hf : s.resolveEndpoint a = some fs) (ht : s.resolveEndpoint b = some ts) (edges : List Edge) (c : Bool) (fr : FrameId) (x y z : Expr) :
    (mkEdge edges fs ts c fr x y z).own s.view t := by
  obtain ⟨_, hrf, hkf⟩ := resolveEndpoint_resolveSym hf
  obtain ⟨_, hrt, hkt⟩ := resolveEndpoint_resolveSym ht
  have of := h2.resolve_own hc hrf hkf
  have ot := h2.resolve_own hc hrt hkt
  exact ⟨(ownEnd_ite of).1, (ownEnd_ite of).2, (ownEnd_ite ot).1, (ownEnd_ite ot).2⟩

/-- `proc_edge_begin` and `proc_location_init` need the scope invariant at the point where they resolve their names
    (`Inv2.resolve_own`) -/
theorem Builds.ownT {safe special : Prop} {s s' : BState} (b : Builds safe special s s') (hs : safe) (h2 : Inv2 s.view)
    (h : OwnT s) : OwnT s' := by
  have g := b.grows
  induction b with
  | trans b1 b2 ih1 ih2 => exact ih2 (b1.inv2 hs h2) (ih1 h2 h b1.grows) b2.grows
  | quiet _ _ _ _ _ h6 _ => exact h.same g (by rw [h6])
  | addTemplate s n a b _ => exact ownT_appendTempl h g (mkTempl _ _ _ _ a b) rfl rfl rfl
  | defineTempl s t => exact ownT_modifyTempl h g t _ rfl (fun _ _ _ he => .inr he) (fun _ _ _ hi => .inr hi)
  | @setInit s t n sid sym hc hr hl _ =>
    refine ownT_modifyTempl h g t _ rfl (fun _ _ _ he => .inr he) (fun _ _ _ hi => .inl ?_)
    cases hi
    have hsym := resolveSym_sym hr
    refine ⟨?_, sym, hsym, hl⟩
    rw [symUser_eq hsym]; exact h2.resolve_own hc hr (Or.inl hl)
  | @addEdge s t _ _ fs ts hc hf ht c fr x y z =>
    refine ownT_modifyTempl h g t _ rfl (fun T e _ he => ?_) (fun _ _ _ hi => .inr hi)
    rcases List.mem_append.mp he with h1 | h1
    · exact .inr h1
    · rw [List.mem_singleton] at h1; subst h1
      exact .inl (mkEdge_own h2 hc hf ht T.edges c fr x y z)
  | relabel s t i hg =>
    refine ownT_modifyTempl h g t _ rfl (fun T e' hT he' => .inl ?_) (fun _ _ _ hi => .inr hi)
    obtain ⟨j, hj⟩ := List.getElem?_of_mem he'
    obtain ⟨e, hm, _, h1, h2, h3, h4⟩ := getElem?_modify_rel Edge.sameEnds.refl hg hj
    have := Edge.own_mono g (h.edges t T e hT (List.mem_of_getElem? hm))
    unfold Edge.own at this ⊢
    rw [h1, h2, h3, h4]; exact this
  | _ => exact h.same g rfl

/-- the callers' discipline along a whole callback list -/
def SafeRun : BState → List Call → Prop
  | _, [] => True
  | s, c :: r => safeCall s c = true ∧ SafeRun (step s c) r

theorem scope_reachable (cs : List Call) : ∀ (s : BState), Inv2 s.view → OwnT s → SafeRun s cs →
    Inv2 (run s cs).view ∧ OwnT (run s cs) := by
  induction cs with
  | nil => intro s h2 h _; exact ⟨h2, h⟩
  | cons c r ih =>
    intro s h2 h hs
    exact ih (step s c) ((step_builds s c).inv2 hs.1 h2) ((step_builds s c).ownT hs.1 h2 h) hs.2

end UtapModel.Builder
