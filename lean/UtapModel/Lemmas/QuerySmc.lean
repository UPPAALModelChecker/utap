/- The statistical query forms (Props/C03Query.lean): the generated literals as tokens, the parser on printed bounds, the round trip. -/
import UtapModel.Model.QuerySmc
import UtapModel.Lemmas.Query

namespace UtapModel.QuerySmc
open UtapModel.Pratt UtapModel.ExprTable UtapModel.Query

/-- the terminals of the statistical forms -/
def QS : List String := ["T_PROBA", "T_SIMULATE", "'E'", "T_BOX", "T_DIAMOND", "T_HASH", "T_LEQ", "';'", "'{'", "'}'", "'U'"]

-- `KW` begins with `QS`
theorem qtok_tbl : ∀ x ∈ QS, qtok x = .sym (qid x) := fun _ hx => qtok_kw (List.IsPrefix.subset ⟨_, rfl⟩ hx)

theorem lits :
    lit "pr" = [.sym (qid "T_PROBA"), .lb] ∧ lit "runs" = [.sym (qid "';'")] ∧ lit "box" = [.rb, .lp, .sym (qid "T_BOX")] ∧
    lit "diamond" = [.rb, .lp, .sym (qid "T_DIAMOND")] ∧ lit "untilOpen" = [.rb, .lp] ∧ lit "until" = [.sym (qid "'U'")] ∧
    lit "close" = [.rp] ∧ lit "ex" = [.sym (qid "'E'"), .lb] ∧ lit "exOpen" = [.rb, .lp] ∧ lit "colon" = [.colon] ∧
    lit "sim" = [.sym (qid "T_SIMULATE"), .lb] ∧ lit "simOpen" = [.rb, .sym (qid "'{'")] ∧ lit "simClose" = [.sym (qid "'}'")] ∧
    lit "steps" = [.sym (qid "T_HASH")] ∧ lit "leq" = [.sym (qid "T_LEQ")] ∧
    lit "cmpOpen" = [.rb, .lp] ∧ lit "cmpBox" = [.sym (qid "T_BOX")] ∧ lit "cmpDiamond" = [.sym (qid "T_DIAMOND")] ∧
    lit "geq" = [.rp, .sym (qid "T_GEQ")] ∧ lit "reachOpen" = [.sym (qid "'}'"), .colon] ∧ lit "reachSep" = [.colon] := by
  decide +kernel

theorem runsTail_print (k : BKind) (bound : Expr) (runs : Option Nat) (rest : List Tok) :
    runsTail k bound (runsToks runs ++ .rb :: rest) = some ({ kind := k, bound := bound, runs := runs }, rest) := by
  cases runs <;> simp only [runsToks, lits, List.cons_append, List.nil_append]
  · rfl
  · simp only [runsTail, isTok_self, if_true]

theorem contAt_runs (runs : Option Nat) (rest : List Tok) : contAt utapT 0 (runsToks runs ++ .rb :: rest) = false := by
  cases runs with
  | none => rfl
  | some n => simpa only [runsToks, lits, List.cons_append, List.nil_append] using contAt_kw "';'" (by decide) _

theorem parseBnd_expr {ts : List Tok} (h : OpStart utapT ts) : parseBnd ts = boundExpr ts := by
  cases h with
  | sym hp => simp only [parseBnd, isTok_pre hp, kw_mem, Bool.false_eq_true, ↓reduceIte]
  | _ => rfl

theorem parseBnd_print (b : Bnd) (h : b.wf = true) (rest : List Tok) :
    parseBnd (bndToks P b ++ .rb :: rest) = some (b, rest) := by
  obtain ⟨k, bound, runs⟩ := b
  have hr := contAt_runs runs rest
  simp only [bndToks, boundToks, lits, List.append_assoc, List.cons_append, List.nil_append]
  cases k with
  | expr l =>
    simp only [Bnd.wf, Bool.and_eq_true] at h
    -- the text is the text of the one expression `l <= bound`
    rw [parseBnd_expr (opStart_print _ h.2.2 _), boundExpr, pE_print _ h.2.2 hr]
    simp only [beq_self_eq_true, if_true, runsTail_print]
  | _ =>
    simp only [Bnd.wf, Bool.and_true] at h
    simp only [List.cons_append, parseBnd, isTok_kw, kw_mem, String.reduceBEq, Bool.false_eq_true, ↓reduceIte,
      boundAfter, pE_print bound h hr, runsTail_print]

/-- `simulate` always writes a run count; where the query has one, its bound is written as `bndToks` writes it -/
theorem bndToks_runs {b : Bnd} (h : b.runs.isSome = true) (r : List Tok) :
    boundToks P b ++ (lit "runs" ++ .atom (.nat (b.runs.getD 1)) :: r) = bndToks P b ++ r := by
  obtain ⟨k, bound, _ | n⟩ := b
  · cases h
  · simp only [bndToks, runsToks, Option.getD_some, List.append_assoc, List.cons_append, List.nil_append]

theorem runs_getD {b : Bnd} (h : b.runs.isSome = true) : { b with runs := some (b.runs.getD 1) } = b := by
  obtain ⟨k, bound, _ | n⟩ := b
  · cases h
  · rfl

theorem prBody_expr (b : Bnd) {ts : List Tok} (h : OpStart utapT ts) : prBody b ts = prBody.untilBody b ts := by
  cases h with
  | sym hp => simp only [prBody, isTok_pre hp, kw_mem, Bool.false_eq_true, ↓reduceIte]
  | _ => rfl

theorem smc_roundtrip (q : SQuery) (h : q.wf = true) : parseS (sprint q) = some q := by
  unfold sprint
  cases q with
  | pr box b pred u =>
    simp only [SQuery.wf, Bool.and_eq_true, Bool.or_eq_true, Bool.not_eq_true'] at h
    obtain ⟨⟨⟨hb, hp⟩, hu⟩, hbu⟩ := h
    by_cases hc : (box || isTrue u) = true
    · -- `[] e` / `<> e`: the until operand is the constant true
      obtain rfl : u = .atom .tru := by
        cases hbu with
        | inl hf => rw [hc] at hf; cases hf
        | inr ht => simpa using ht
      have h2 := pE_print pred hp (rest := [.rp]) rfl
      cases box <;>
        simp only [printS, isTrue, beq_self_eq_true, Bool.true_or, Bool.false_or, Bool.false_eq_true, ↓reduceIte, lits, List.cons_append,
          List.nil_append] <;>
        simp only [parseS, isTok_kw, kw_mem, String.reduceBEq, Bool.false_eq_true, ↓reduceIte, parseBnd_print b hb, prBody, h2, closeEnd,
          beq_self_eq_true]
    · simp only [Bool.not_eq_true, Bool.or_eq_false_iff] at hc
      obtain ⟨rfl, hc⟩ := hc
      have h1 := pE_print pred hp (contAt_kw "'U'" (by decide) (P u ++ [.rp]))
      have h3 := pE_print u hu (rest := [.rp]) rfl
      simp only [printS, hc, lits, List.append_assoc, List.cons_append, List.nil_append, Bool.false_or, Bool.false_eq_true, ↓reduceIte]
      simp only [parseS, isTok_kw, kw_mem, parseBnd_print b hb, prBody_expr b (opStart_print pred hp _), prBody.untilBody, h1, h3,
        closeEnd, beq_self_eq_true, ↓reduceIte]
  | ex b isMax e =>
    simp only [SQuery.wf, Bool.and_eq_true] at h
    have h2 := pE_print e h.2 (rest := [.rp]) rfl
    simp only [printS, lits, List.append_assoc, List.cons_append, List.nil_append]
    cases isMax <;>
      simp only [Bool.false_eq_true, ↓reduceIte, parseS, isTok_kw, kw_mem, String.reduceBEq, parseBnd_print b h.1, h2, closeEnd,
        beq_self_eq_true, Bool.or_true, Bool.or_false]
  | sim b l =>
    simp only [SQuery.wf, Bool.and_eq_true, Bool.not_eq_true', List.isEmpty_eq_false_iff] at h
    obtain ⟨⟨⟨hb, hr⟩, hg⟩, hne⟩ := h
    have hpl := parseList_print l hne hg (contAt_kw "'}'" (by decide) []) nofun _ (Nat.lt_add_one _)
    simp only [printS, List.append_assoc, bndToks_runs hr]
    simp only [lits, List.cons_append, List.nil_append]
    simp only [parseS, isTok_kw, kw_mem, String.reduceBEq, Bool.false_eq_true, ↓reduceIte, parseBnd_print b hb, hpl, runs_getD hr]

end UtapModel.QuerySmc
