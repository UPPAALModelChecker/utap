/- Helper lemmas of C04: the tree-level reader on rendered XML emits a closed-form callback list. -/
import UtapModel.Model.Xml
namespace UtapModel.AM

/-- every element of `xs` makes `begin(tag)` answer "no" without consuming anything -/
def AllStop (tag : String) (xs : List Xml) : Prop :=
  ∀ x ∈ xs, ∃ t a k, x = Xml.elem t a k ∧ t ≠ tag ∧ known t = true

theorem AllStop.nil {tag : String} : AllStop tag [] := fun _ hx => nomatch hx

theorem AllStop.cons {tag t : String} {a k} {r : List Xml} (hne : t ≠ tag) (hk : known t = true) (hr : AllStop tag r) :
    AllStop tag (Xml.elem t a k :: r) := by
  intro x hx
  rcases List.mem_cons.mp hx with h | h
  · exact ⟨t, a, k, h, hne, hk⟩
  · exact hr x h

theorem AllStop.append {tag : String} {a b : List Xml} (ha : AllStop tag a) (hb : AllStop tag b) : AllStop tag (a ++ b) :=
  fun x hx => (List.mem_append.mp hx).elim (ha x) (hb x)

theorem AllStop.ite {tag : String} {c : Prop} [Decidable c] {a b : List Xml} (ha : AllStop tag a) (hb : AllStop tag b) :
    AllStop tag (if c then a else b) := by
  split <;> assumption

theorem AllStop.map {α} {tag t : String} {g : α → List (String × String)} {h : α → List Xml} {xs : List α}
    (hne : t ≠ tag) (hk : known t = true) : AllStop tag (xs.map (fun x => Xml.elem t (g x) (h x))) := by
  intro x hx
  obtain ⟨y, _, rfl⟩ := List.mem_map.mp hx
  exact ⟨t, g y, h y, rfl, hne, hk⟩

theorem scan_stop {σ} {tag : String} (f : σ → List (String × String) → List Xml → σ) (s : σ) {xs : List Xml}
    (h : AllStop tag xs) : scan tag f s xs = (s, xs) := by
  cases xs with
  | nil => rfl
  | cons x r =>
    obtain ⟨t, a, k, rfl, hne, hk⟩ := h x (by simp)
    simp [scan, hne, hk]

theorem opt_stop {tag : String} {xs : List Xml} (h : AllStop tag xs) : opt tag xs = (none, xs) := by
  cases xs with
  | nil => rfl
  | cons x r =>
    obtain ⟨t, a, k, rfl, hne, hk⟩ := h x (by simp)
    simp [opt, hne, hk]

/-- `while (begin(tag))` over the rendering of a list, up to where `begin(tag)` answers "no" -/
theorem scan_render {σ α} {tag : String} {f : σ → List (String × String) → List Xml → σ}
    {g : α → List (String × String)} {h : α → List Xml} {xs : List α} {rest : List Xml} (hr : AllStop tag rest) (s : σ) :
    scan tag f s (xs.map (fun x => Xml.elem tag (g x) (h x)) ++ rest)
      = (xs.foldl (fun s x => f s (g x) (h x)) s, rest) := by
  induction xs generalizing s with
  | nil => exact scan_stop f s hr
  | cons x r ih => simp [scan, ih]

/-- `known t` for a tag given by its position in `knownTags`; finding a tag by `decide` compares it with all the strings
    before it, which is slow to check -/
theorem known_getElem (i : Nat) (h : i < knownTags.length) : known knownTags[i] = true := by
  simp [known]

theorem known_system : known "system" = true := known_getElem 6 (by decide)
theorem known_init : known "init" = true := known_getElem 10 (by decide)
theorem known_transition : known "transition" = true := known_getElem 11 (by decide)
theorem known_urgent : known "urgent" = true := known_getElem 12 (by decide)
theorem known_committed : known "committed" = true := known_getElem 13 (by decide)
theorem known_branchpoint : known "branchpoint" = true := known_getElem 14 (by decide)
theorem known_label : known "label" = true := known_getElem 17 (by decide)

def hasKind (k : LocKind) (ls : List (LocKind × Key)) : Bool := ls.any (·.1 == k)

def locCallsX (l : ALoc) : List Call :=
  l.labels.map (fun p => Call.pushExpr p.2) ++
  [.procLocation l.effName (hasKind .invariant l.labels) (hasKind .exponentialrate l.labels)] ++
  (if l.committed then [.procLocationCommit l.effName] else []) ++
  (if l.urgent then [.procLocationUrgent l.effName] else [])

def labelCalls : ELabel → List Call
  | .select bs => bs.map (fun b => .procSelect b.1 b.2)
  | .guard k => [.pushExpr k, .procGuard]
  | .sync k d => [.pushExpr k, .procSync d]
  | .assign k => [.pushExpr k, .procUpdate]
  | .prob k => [.pushExpr k, .procProb]

/-- the name the reader's `names` map holds for a reference inside template `t` -/
def nameOf (t : ATempl) (ref : String) : Option String :=
  match t.locs.find? (·.id == ref) with
  | some l => some l.effName
  | none => if t.bps.contains ref then some (bpName ref) else none

def edgeCallsX (t : ATempl) (e : AEdge) : List Call :=
  match nameOf t e.src, nameOf t e.tgt with
  | some f, some g => [.procEdgeBegin f g (ctrlOf e.ctrl)] ++ e.labels.flatMap labelCalls ++ [.procEdgeEnd f g]
  | _, _ => [.error "Missing reference"]

def initCallsX (t : ATempl) : List Call :=
  match t.init with
  | some r => (match nameOf t r with | some n => [.procLocationInit n] | none => [.error "Missing reference"])
  | none => [.error "Missing initial location"]

def templCallsX (t : ATempl) : List Call :=
  t.params.map .declParam ++ [.procBegin t.name] ++ t.decls.map .declItem ++ t.locs.flatMap locCallsX ++
  t.bps.map (fun b => .procBranchpoint (bpName b)) ++ initCallsX t ++ t.edges.flatMap (edgeCallsX t) ++ [.procEnd]

/-- what one template adds to the `names` map: its branchpoints (read last) in front of its locations -/
def templNames (t : ATempl) : List (String × String) :=
  (t.bps.map (fun b => (b, bpName b))).reverse ++ (t.locs.map (fun l => (l.id, l.effName))).reverse

theorem readLocLabel_render (acc : List Call × Bool × Bool) (x : LocKind × Key) :
    readLocLabel acc (locLabelAttrs x) (locLabelKids x)
      = (acc.1 ++ [Call.pushExpr x.2], acc.2.1 || x.1 == .invariant, acc.2.2 || x.1 == .exponentialrate) := by
  obtain ⟨k, key⟩ := x
  cases k <;> simp [readLocLabel, locLabelAttrs, locLabelKids, attr, locLabelKind, firstText, parseCalls]

theorem locLabels_fold (ls : List (LocKind × Key)) (acc : List Call × Bool × Bool) :
    ls.foldl (fun s x => readLocLabel s (locLabelAttrs x) (locLabelKids x)) acc
      = (acc.1 ++ ls.map (fun p => Call.pushExpr p.2), acc.2.1 || hasKind .invariant ls, acc.2.2 || hasKind .exponentialrate ls) := by
  induction ls generalizing acc with
  | nil => simp [hasKind]
  | cons x r ih =>
    rw [List.foldl_cons, readLocLabel_render, ih]
    simp [hasKind, Bool.or_assoc]

def flagKids (u c : Bool) : List Xml :=
  (if u then [Xml.elem "urgent" [] []] else []) ++ (if c then [Xml.elem "committed" [] []] else [])

theorem flagKids_stop (tag : String) (u c : Bool) (h1 : "urgent" ≠ tag) (h2 : "committed" ≠ tag) : AllStop tag (flagKids u c) :=
  (AllStop.ite (.cons h1 known_urgent .nil) .nil).append
    (AllStop.ite (.cons h2 known_committed .nil) .nil)

theorem opt_flags (u c : Bool) :
    (opt "urgent" (flagKids u c)).1.isSome = u ∧ (opt "committed" (opt "urgent" (flagKids u c)).2).1.isSome = c := by
  cases u <;> cases c <;> simp [flagKids, opt, known_committed]

theorem readLocation_render (s : RS) (l : ALoc) :
    readLocation s (locAttrs l) (locKids l) = { names := (l.id, l.effName) :: s.names, out := s.out ++ locCallsX l } := by
  obtain ⟨id, name, labels, u, c⟩ := l
  have hopt : opt "name" (locKids ⟨id, name, labels, u, c⟩)
      = (name.map fun n => ([], [Xml.text (.str n)]),
         labels.map (fun x => Xml.elem "label" (locLabelAttrs x) (locLabelKids x)) ++ flagKids u c) := by
    cases name with
    | none =>
      exact (congrArg (opt "name") (by simp [locKids, flagKids])).trans
        (opt_stop ((AllStop.map (by decide) known_label).append (flagKids_stop "name" u c (by decide) (by decide))))
    | some n => simp [locKids, flagKids, opt]
  obtain ⟨hu, hc⟩ := opt_flags u c
  simp only [readLocation, hopt, scan_render (flagKids_stop "label" u c (by decide) (by decide)), locLabels_fold]
  cases name with
  | none => simp [hu, hc, locAttrs, attr, ALoc.effName, locCallsX]
  | some n => by_cases hn : n = "" <;> simp [hu, hc, locAttrs, attr, ALoc.effName, locCallsX, firstStr, firstText, hn]

theorem readELabel_render (acc : List Call) (x : ELabel) :
    readELabel acc (elabelAttrs x) (elabelKids x) = acc ++ labelCalls x := by
  cases x <;> simp [readELabel, elabelAttrs, elabelKids, elabelKind, elabelTxt, attr, firstText, labelPart, parseCalls, labelCalls]

theorem elabels_fold (ls : List ELabel) (acc : List Call) :
    ls.foldl (fun s x => readELabel s (elabelAttrs x) (elabelKids x)) acc = acc ++ ls.flatMap labelCalls := by
  induction ls generalizing acc with
  | nil => simp
  | cons x r ih =>
    rw [List.foldl_cons, readELabel_render, ih]
    simp

theorem ctrl_attr (c : Option Bool) :
    (match attr (ctrlAttr c) "controllable" with | none => true | some v => decide (v = "true")) = ctrlOf c := by
  cases c with
  | none => rfl
  | some b => cases b <;> simp [ctrlAttr, attr, ctrlOf]

theorem readTransition_render (s : RS) (t : ATempl) (e : AEdge)
    (hs : s.names.lookup e.src = nameOf t e.src) (ht : s.names.lookup e.tgt = nameOf t e.tgt) :
    readTransition s (edgeAttrs e) (edgeKids e) = { names := s.names, out := s.out ++ edgeCallsX t e } := by
  have hsc := scan_render (f := readELabel) (g := elabelAttrs) (h := elabelKids) (xs := e.labels) (AllStop.nil (tag := "label")) []
  rw [List.append_nil, elabels_fold, List.nil_append] at hsc
  have hr : ∀ r, refName s.names [("ref", r)] = s.names.lookup r := fun r => by simp [refName, attr]
  simp only [readTransition, edgeKids, edgeAttrs, List.cons_append, List.nil_append, opt, if_true, hr, hs, ht, hsc, edgeCallsX]
  cases nameOf t e.src <;> cases nameOf t e.tgt <;> simp [RS.emit]
  exact ctrl_attr e.ctrl

theorem locs_fold (ls : List ALoc) (s : RS) :
    ls.foldl (fun s x => readLocation s (locAttrs x) (locKids x)) s
      = { names := (ls.map (fun l => (l.id, l.effName))).reverse ++ s.names, out := s.out ++ ls.flatMap locCallsX } := by
  induction ls generalizing s with
  | nil => simp
  | cons x r ih =>
    rw [List.foldl_cons, readLocation_render, ih]
    simp

theorem bps_fold (bs : List String) (s : RS) :
    bs.foldl (fun s x => readBranchpoint s (bpAttrs x) []) s
      = { names := (bs.map (fun b => (b, bpName b))).reverse ++ s.names,
          out := s.out ++ bs.map (fun b => Call.procBranchpoint (bpName b)) } := by
  induction bs generalizing s with
  | nil => simp
  | cons x r ih =>
    rw [List.foldl_cons, ih]
    simp [readBranchpoint, bpAttrs, attr, bpName]

theorem edges_fold (t : ATempl) (es : List AEdge) (s : RS)
    (h : ∀ e ∈ es, s.names.lookup e.src = nameOf t e.src ∧ s.names.lookup e.tgt = nameOf t e.tgt) :
    es.foldl (fun s x => readTransition s (edgeAttrs x) (edgeKids x)) s
      = { names := s.names, out := s.out ++ es.flatMap (edgeCallsX t) } := by
  induction es generalizing s with
  | nil => simp
  | cons x r ih =>
    obtain ⟨hs, ht⟩ := h x List.mem_cons_self
    rw [List.foldl_cons, readTransition_render s t x hs ht,
      ih { names := s.names, out := s.out ++ edgeCallsX t x } fun e he => h e (List.mem_cons_of_mem x he)]
    simp

theorem lookup_of_mem {l : List (String × String)} (hn : (l.map Prod.fst).Nodup) {k v : String} (h : (k, v) ∈ l)
    (r : List (String × String)) : (l ++ r).lookup k = some v := by
  induction l with
  | nil => cases h
  | cons x l ih =>
    obtain ⟨a, b⟩ := x
    rw [List.map_cons, List.nodup_cons] at hn
    rcases List.mem_cons.mp h with h' | h'
    · cases h'
      simp
    · have hne : (k == a) = false := beq_false_of_ne fun heq => hn.1 (heq ▸ List.mem_map_of_mem (f := Prod.fst) h' :)
      rw [List.cons_append, List.lookup_cons, hne]
      exact ih hn.2 h'

theorem find_loc {ls : List ALoc} {r : String} (h : r ∈ ls.map (·.id)) :
    ∃ l ∈ ls, l.id = r ∧ ls.find? (·.id == r) = some l := by
  cases hf : ls.find? (·.id == r) with
  | some l => exact ⟨l, List.mem_of_find?_eq_some hf, by simpa using List.find?_some hf, rfl⟩
  | none =>
    obtain ⟨l, hl, hid⟩ := List.mem_map.mp h
    simpa [hid] using List.find?_eq_none.mp hf l hl

theorem find_ref (t : ATempl) {r : String} (h : r ∈ t.nodeIds) :
    (∃ l ∈ t.locs, l.id = r ∧ t.locs.find? (·.id == r) = some l) ∨ (t.locs.find? (·.id == r) = none ∧ r ∈ t.bps) := by
  by_cases hl : r ∈ t.locs.map (·.id)
  · exact Or.inl (find_loc hl)
  · exact Or.inr ⟨by simpa using hl, (List.mem_append.mp h).resolve_left hl⟩

/-- the map is `templNames t ++ nm`, bracketed the way `locs_fold` and `bps_fold` leave it -/
theorem names_lookup (t : ATempl) (nm : List (String × String)) (hnd : t.nodeIds.Nodup) (ref : String)
    (href : ref ∈ t.nodeIds) :
    ((t.bps.map (fun b => (b, bpName b))).reverse ++ ((t.locs.map (fun l => (l.id, l.effName))).reverse ++ nm)).lookup ref
      = nameOf t ref := by
  have hk : ((templNames t).map Prod.fst).Nodup := by
    simpa [templNames, ATempl.nodeIds, List.map_reverse, Function.comp_def] using hnd.perm (List.reverse_perm _).symm
  obtain ⟨n, hn, hm⟩ : ∃ n, nameOf t ref = some n ∧ (ref, n) ∈ templNames t := by
    simp only [templNames, List.mem_reverse, List.mem_append, List.mem_map]
    rcases find_ref t href with ⟨l, hl, hid, hf⟩ | ⟨hf, hb⟩
    · exact ⟨_, by rw [nameOf, hf], .inr ⟨l, hl, by rw [hid]⟩⟩
    · exact ⟨_, by rw [nameOf, hf, List.contains_iff_mem.mpr hb, if_pos rfl], .inl ⟨ref, hb, rfl⟩⟩
  rw [hn, ← List.append_assoc]
  exact lookup_of_mem hk hm nm

theorem renderInit_stop {tag : String} (i : Option String) (h : "init" ≠ tag) : AllStop tag (renderInit i) := by
  cases i with
  | none => exact .nil
  | some r => exact .cons h known_init .nil

theorem readInit_render (s : RS) (t : ATempl) (rest : List Xml) (hstop : AllStop "init" rest)
    (hlook : ∀ r, t.init = some r → s.names.lookup r = nameOf t r) :
    readInit s (renderInit t.init ++ rest) = ({ names := s.names, out := s.out ++ initCallsX t }, rest) := by
  cases hi : t.init with
  | none => simp [renderInit, readInit, opt_stop hstop, initCallsX, RS.emit, hi]
  | some r =>
    simp only [renderInit, readInit, opt, List.cons_append, List.nil_append, ↓reduceIte, attr, List.lookup, beq_self_eq_true,
      hlook r hi, initCallsX, hi]
    cases nameOf t r <;> rfl

/-- the part of well-formedness the reader needs: ids unique inside the template, references resolve inside it -/
def ReaderWf (t : ATempl) : Prop :=
  t.nodeIds.Nodup ∧ (∀ r, t.init = some r → r ∈ t.nodeIds) ∧ (∀ e ∈ t.edges, e.src ∈ t.nodeIds ∧ e.tgt ∈ t.nodeIds)

theorem readTemplate_render (s : RS) (t : ATempl) (hw : ReaderWf t) :
    readTemplate s [] (templKids t) = { names := templNames t ++ s.names, out := s.out ++ templCallsX t } := by
  obtain ⟨hnd, hinit, hedges⟩ := hw
  -- each loop ends at the elements of the parts that follow: all known, none with its tag
  have hE : ∀ tag, "transition" ≠ tag →
      AllStop tag (t.edges.map (fun x => Xml.elem "transition" (edgeAttrs x) (edgeKids x)) ++ []) :=
    fun _ h => (AllStop.map h known_transition).append .nil
  have hI : ∀ tag, "init" ≠ tag → "transition" ≠ tag → AllStop tag (renderInit t.init ++ _) :=
    fun tag h h' => (renderInit_stop _ h).append (hE tag h')
  have hB : AllStop "location" (t.bps.map (fun x => Xml.elem "branchpoint" (bpAttrs x) []) ++ _) :=
    (AllStop.map (t := "branchpoint") (by decide) known_branchpoint).append (hI _ (by decide) (by decide))
  have hnames := names_lookup t s.names hnd
  simp only [readTemplate, templKids, List.cons_append, List.nil_append, opt, ↓reduceIte, firstText, firstStr, RS.emit,
    parseCalls, readDeclaration]
  rw [← List.append_nil (t.edges.map _), scan_render hB, locs_fold,
    scan_render (f := readBranchpoint) (g := bpAttrs) (h := fun _ => []) (hI _ (by decide) (by decide)), bps_fold,
    readInit_render _ t _ (hE _ (by decide)) (fun r hr => hnames r (hinit r hr)), scan_render .nil,
    edges_fold t _ _ (fun e he => ⟨hnames _ (hedges e he).1, hnames _ (hedges e he).2⟩)]
  simp [templNames, templCallsX]

def xmlCalls (M : AModel) : List Call :=
  M.gdecls.map .declItem ++ M.templates.flatMap templCallsX ++ parseCalls .system (.system M.insts M.procs) ++ [.done]

theorem templs_fold (ts : List ATempl) (s : RS) (h : ∀ t ∈ ts, ReaderWf t) :
    ∃ nm, ts.foldl (fun s x => readTemplate s [] (templKids x)) s = { names := nm, out := s.out ++ ts.flatMap templCallsX } := by
  induction ts generalizing s with
  | nil => exact ⟨s.names, by simp⟩
  | cons x r ih =>
    obtain ⟨nm, hnm⟩ := ih { names := templNames x ++ s.names, out := s.out ++ templCallsX x } (fun t ht => h t (by simp [ht]))
    exact ⟨nm, by rw [List.foldl_cons, readTemplate_render s x (h x (by simp)), hnm]; simp⟩

theorem readXml_render (M : AModel) (h : ∀ t ∈ M.templates, ReaderWf t) : readXml (renderXml M) = xmlCalls M := by
  have hstop : ∀ tag, "system" ≠ tag → AllStop tag [Xml.elem "system" [] [.text (.system M.insts M.procs)]] :=
    fun tag hne => .cons hne known_system .nil
  obtain ⟨nm, hnm⟩ := templs_fold M.templates { names := [], out := M.gdecls.map Call.declItem } h
  simp only [readXml, renderXml, ntaKids, true_or, ↓reduceIte, List.cons_append, List.nil_append, readDeclaration, opt,
    firstText, RS.emit, parseCalls]
  rw [scan_render (f := readTemplate) (g := fun _ => []) (h := templKids) (hstop _ (by decide))]
  simp only [opt_stop (hstop "instantiation" (by decide)), hnm]
  simp [readSystem, opt, firstText, RS.emit, xmlCalls, parseCalls]

end UtapModel.AM
