/- Unfolding equations of the Pratt parser model (Model/Pratt.lean): one per shape of input, all by unfolding the definition once;
   and `contAt`, the test the continuation loop makes on the token in front of it. -/
import UtapModel.Model.Pratt

namespace UtapModel.Pratt

variable (T : Tbl)

theorem parseE_zero (q ts) : parseE T 0 q ts = none := rfl
theorem loop_zero (q l ts) : loop T 0 q l ts = none := rfl
theorem parseTail_zero (ts) : parseTail T 0 ts = none := rfl

theorem parseE_atom (f q a r) : parseE T (f+1) q (.atom a :: r) = loop T f q (.atom a) r := rfl

theorem parseE_intMin (f q t r) : parseE T (f+1) q (.sym t :: .posNegMax :: r) =
    if T.isPre t && T.isMinus t then loop T f q (.atom .intMin) r else none := rfl

/-- token lists that begin as an operand does: a symbol at the head is a prefix operator -/
inductive OpStart : List Tok → Prop
  | atom {a r} : OpStart (.atom a :: r)
  | sym {t r} : T.isPre t = true → OpStart (.sym t :: r)
  | quant {k id ty r} : OpStart (.quant k id ty :: r)
  | lp {r} : OpStart (.lp :: r)
  | fn {k n r} : OpStart (.fn k n :: r)

/-- a prefix operator in front of an operand (not the literal 2147483648, which `parseE_intMin` reads) -/
theorem parseE_sym (f q t r) (h : OpStart T r) : parseE T (f+1) q (.sym t :: r) =
    if T.isPre t then
      match parseE T f (T.mn (T.pp t)) r with
      | some (e, r') => loop T f q (if T.prePlus t then e else .pre t e) r'
      | none => none
    else none := by
  cases h <;> rfl

theorem parseE_quant (f q k id ty r) : parseE T (f+1) q (.quant k id ty :: r) =
    match parseE T f (T.mn (T.quantL k)) r with
    | some (e, r') => loop T f q (.quant k id ty e) r'
    | none => none := rfl

theorem parseE_lp (f q r) : parseE T (f+1) q (.lp :: r) =
    match parseE T f 0 r with
    | some (e, .rp :: r') => loop T f q e r'
    | _ => none := rfl

theorem parseE_fn1 (f q k r) : parseE T (f+1) q (.fn k 1 :: .lp :: r) =
    match parseE T f 0 r with
    | some (a, .rp :: r') => loop T f q (.fn1 k a) r'
    | _ => none := rfl

theorem parseE_fn2 (f q k r) : parseE T (f+1) q (.fn k 2 :: .lp :: r) =
    match parseE T f 0 r with
    | some (a, .comma :: r1) =>
      match parseE T f 0 r1 with
      | some (b, .rp :: r') => loop T f q (.fn2 k a b) r'
      | _ => none
    | _ => none := rfl

theorem parseE_fn3 (f q k r) : parseE T (f+1) q (.fn k 3 :: .lp :: r) =
    match parseE T f 0 r with
    | some (a, .comma :: r1) =>
      match parseE T f 0 r1 with
      | some (b, .comma :: r2) =>
        match parseE T f 0 r2 with
        | some (c, .rp :: r') => loop T f q (.fn3 k a b c) r'
        | _ => none
      | _ => none
    | _ => none := rfl

theorem loop_sym (f q l t r) : loop T (f+1) q l (.sym t :: r) =
    if T.isBin t && decide (q ≤ T.bp t) then
      match parseE T f (T.mn (T.bp t)) r with
      | some (rhs, r') => loop T f q (T.mkBin t l rhs) r'
      | none => none
    else if T.isPost t && decide (q ≤ T.sp t) then loop T f q (.post t l) r
    else some (l, .sym t :: r) := rfl

theorem loop_quest (f q l r) : loop T (f+1) q l (.quest :: r) =
    if q ≤ T.questL then
      match parseE T f 0 r with
      | some (a, .colon :: r1) =>
        match parseE T f (T.mn T.ternL) r1 with
        | some (b, r') => loop T f q (.tern l a b) r'
        | none => none
      | _ => none
    else some (l, .quest :: r) := rfl

theorem loop_lb (f q l r) : loop T (f+1) q l (.lb :: r) =
    if q ≤ T.topL then
      match parseE T f 0 r with
      | some (i, .rb :: r') => loop T f q (.index l i) r'
      | _ => none
    else some (l, .lb :: r) := rfl

theorem loop_lp (f q l r) : loop T (f+1) q l (.lp :: r) =
    if q ≤ T.topL then
      match argsAfterLp T f r with
      | some (args, r') => loop T f q (.call l args) r'
      | none => none
    else some (l, .lp :: r) := by
  -- where the list begins with an operand, `loop` matches on the two parses in turn and `argsAfterLp` packs them first
  have nested : (match parseE T f 0 r with
      | some (e, r1) =>
        match parseTail T f r1 with
        | some (rest, r') => loop T f q (.call l (.acons e rest)) r'
        | none => none
      | none => none) =
      match (match parseE T f 0 r with
        | some (e, r1) =>
          match parseTail T f r1 with
          | some (rest, r') => some (Expr.acons e rest, r')
          | none => none
        | none => none) with
      | some (args, r') => loop T f q (.call l args) r'
      | none => none := by
    rcases parseE T f 0 r with _ | ⟨e, r1⟩
    · rfl
    · dsimp only
      rcases parseTail T f r1 with _ | ⟨rest, r'⟩ <;> rfl
  have other := congrArg (fun x => if q ≤ T.topL then x else some (l, Tok.lp :: r)) nested
  cases r with
  | nil => exact other
  | cons x xs =>
    cases x with
    | rp | comma => rfl
    | _ => exact other

theorem loop_dot (f q l n r) : loop T (f+1) q l (.dot n :: r) =
    if q ≤ T.topL then loop T f q (.dot n l) r else some (l, .dot n :: r) := rfl

theorem loop_dotLoc (f q l r) : loop T (f+1) q l (.dotLoc :: r) =
    if q ≤ T.topL then loop T f q (.dotLoc l) r else some (l, .dotLoc :: r) := rfl

theorem argsAfterLp_rp (f r) : argsAfterLp T f (.rp :: r) = some (.anil, r) := rfl
theorem argsAfterLp_expr (f ts) (h : OpStart T ts) : argsAfterLp T f ts =
    match parseE T f 0 ts with
    | some (e, r1) =>
      match parseTail T f r1 with
      | some (rest, r') => some (.acons e rest, r')
      | none => none
    | none => none := by
  cases h <;> rfl

theorem parseTail_rp (f r) : parseTail T (f+1) (.rp :: r) = some (.anil, r) := rfl
theorem parseTail_comma (f r) : parseTail T (f+1) (.comma :: r) =
    match parseE T f 0 r with
    | some (e, r1) =>
      match parseTail T f r1 with
      | some (rest, r') => some (.acons e rest, r')
      | none => none
    | none => none := rfl

/-- would the continuation loop at minimum level `m` consume the head of `ts`? -/
def contAt (m : Nat) : List Tok → Bool
  | .sym t :: _ => (T.isBin t && decide (m ≤ T.bp t)) || (T.isPost t && decide (m ≤ T.sp t))
  | .quest :: _ => decide (m ≤ T.questL)
  | .lb :: _ => decide (m ≤ T.topL)
  | .lp :: _ => decide (m ≤ T.topL)
  | .dot _ :: _ => decide (m ≤ T.topL)
  | .dotLoc :: _ => decide (m ≤ T.topL)
  | _ => false

theorem loop_stop (f q l ts) (h : contAt T q ts = false) : loop T (f+1) q l ts = some (l, ts) := by
  cases ts with
  | nil => rfl
  | cons x xs =>
    cases x with
    | sym t =>
      have h := Bool.or_eq_false_iff.mp h
      simp only [loop_sym, h.1, h.2, Bool.false_eq_true, if_false]
    | quest | lb | lp | dot | dotLoc => exact if_neg (of_decide_eq_false h)
    | _ => rfl

theorem contAt_mono {m m' : Nat} {ts} (h : contAt T m ts = false) (hm : m ≤ m') : contAt T m' ts = false := by
  cases ts with
  | nil => rfl
  | cons x xs =>
    cases x with
    | sym t =>
      simp only [contAt, Bool.or_eq_false_iff, Bool.and_eq_false_iff, decide_eq_false_iff_not] at h ⊢
      exact ⟨h.1.imp_right (fun h => by omega), h.2.imp_right (fun h => by omega)⟩
    | quest | lb | lp | dot | dotLoc =>
      simp only [contAt, decide_eq_false_iff_not] at h ⊢
      omega
    | _ => rfl

end UtapModel.Pratt
