/-
C09 — the parenthesis theorem for the precedence-climbing core (core Lean only): for every well-formed tree, with any
number of redundant parenthesis nodes anywhere, the parser's callback trace of its token string is `val` of the tree.
-/
import UtapModel.Model.C09Pratt
import UtapModel.Lemmas.ListFacts
namespace UtapModel.C09.Pratt

theorem parseE_zero (T : Tbl) (q ts) : parseE T 0 q ts = none := by simp [parseE]
theorem loop_zero (T : Tbl) (q l ts) : loop T 0 q l ts = none := by simp [loop]
theorem parseE_atom (T : Tbl) (f q n ts) : parseE T (f+1) q (.atom n :: ts) = loop T f q [.at n] ts := by
  simp only [parseE]
theorem parseE_lp (T : Tbl) (f q ts) : parseE T (f+1) q (.lp :: ts) =
    (match parseE T f 0 ts with
      | some (v, .rp :: ts'') => loop T f q v ts''
      | _ => none) := by
  simp only [parseE]; rfl
theorem parseE_pre (T : Tbl) (f q p ts) : parseE T (f+1) q (.pre p :: ts) =
    (match parseE T f (T.pbp p) ts with
      | some (v, ts'') => loop T f q (v ++ [.un p]) ts''
      | none => none) := by
  simp only [parseE]; rfl
theorem parseE_nil (T : Tbl) (f q) : parseE T (f+1) q [] = none := by simp only [parseE]
theorem parseE_op (T : Tbl) (f q o ts) : parseE T (f+1) q (.op o :: ts) = none := by simp only [parseE]
theorem parseE_rp (T : Tbl) (f q ts) : parseE T (f+1) q (.rp :: ts) = none := by simp only [parseE]
theorem loop_op (T : Tbl) (f q l o ts) : loop T (f+1) q l (.op o :: ts) =
    (if T.bp o ≥ q then
        match parseE T f (T.next o) ts with
        | some (rhs, ts'') => loop T f q (l ++ rhs ++ [.bi o]) ts''
        | none => none
      else some (l, .op o :: ts)) := by
  simp only [loop]; rfl
theorem loop_nil (T : Tbl) (f q l) : loop T (f+1) q l [] = some (l, []) := by simp only [loop]
theorem loop_atom (T : Tbl) (f q l n ts) : loop T (f+1) q l (.atom n :: ts) = some (l, .atom n :: ts) := by simp only [loop]
theorem loop_lp (T : Tbl) (f q l ts) : loop T (f+1) q l (.lp :: ts) = some (l, .lp :: ts) := by simp only [loop]
theorem loop_rp (T : Tbl) (f q l ts) : loop T (f+1) q l (.rp :: ts) = some (l, .rp :: ts) := by simp only [loop]
theorem loop_pre (T : Tbl) (f q l p ts) : loop T (f+1) q l (.pre p :: ts) = some (l, .pre p :: ts) := by simp only [loop]

theorem loop_stop (T : Tbl) {g q l ts} (hg : 0 < g) (h : ∀ o ts', ts = .op o :: ts' → T.bp o < q) :
    loop T g q l ts = some (l, ts) := by
  obtain ⟨f, rfl⟩ := succ_of_le hg
  match ts with
  | [] => exact loop_nil ..
  | .atom _ :: _ => exact loop_atom ..
  | .lp :: _ => exact loop_lp ..
  | .rp :: _ => exact loop_rp ..
  | .pre _ :: _ => exact loop_pre ..
  | .op o :: ts' => rw [loop_op, if_neg (Nat.not_le.mpr (h o ts' rfl))]

/-- operators on one level share associativity (true of any %left/%right table) -/
def Tbl.Consistent (T : Tbl) : Prop :=
  (∀ o o', T.bp o = T.bp o' → T.rassoc o = T.rassoc o') ∧ (∀ o p, T.bp o = T.plevel p → T.rassoc o = T.prassoc p)

/-- no operand of a rule of level ≥ `ctx` swallows the head of `rest` -/
def Safe (T : Tbl) (ctx : Nat) (rest : List PTok) : Prop :=
  ∀ t ts, rest = .op t :: ts → (∀ o, ctx ≤ T.bp o → T.bp t < T.next o) ∧ (∀ p, ctx ≤ T.plevel p → T.bp t < T.pbp p)

theorem safe_mono {T : Tbl} {c c' : Nat} {rest} (h : Safe T c rest) (hc : c ≤ c') : Safe T c' rest :=
  fun t ts e => ⟨fun o ho => (h t ts e).1 o (Nat.le_trans hc ho), fun p hp => (h t ts e).2 p (Nat.le_trans hc hp)⟩

theorem le_next (T : Tbl) (o : Nat) : T.bp o ≤ T.next o := by unfold Tbl.next; split <;> omega
theorem le_pbp (T : Tbl) (p : Nat) : T.plevel p ≤ T.pbp p := by unfold Tbl.pbp; split <;> omega
theorem le_lctx (T : Tbl) (o : Nat) : T.bp o ≤ T.lctx o := by unfold Tbl.lctx; split <;> omega

/-- after a left operand of `o`: an operator of the same level continues it only if the level is %left -/
theorem safe_op {T : Tbl} (hT : T.Consistent) (o : Nat) (ts : List PTok) : Safe T (T.lctx o) (.op o :: ts) := by
  -- a rule of level `L ≥ lctx o` and associativity `R`, which is that of `o` when `L = bp o`
  have key : ∀ (L : Nat) (R : Bool), (T.bp o = L → T.rassoc o = R) → T.lctx o ≤ L → T.bp o < if R then L else L + 1 := by
    intro L R hR hle
    unfold Tbl.lctx at hle
    by_cases heq : T.bp o = L
    · rw [← hR heq]
      by_cases hro : T.rassoc o = true
      · rw [if_pos hro] at hle ⊢; omega
      · rw [if_neg hro] at hle ⊢; omega
    · split at hle <;> split <;> omega
  intro t ts' e
  cases e
  exact ⟨fun o' => key _ _ (hT.1 o o'), fun p' => key _ _ (hT.2 o p')⟩

theorem wf_mono (T : Tbl) {e : PExpr} {c c' : Nat} (h : c' ≤ c) (hw : WF T c e) : WF T c' e := by
  cases e with
  | atom n => trivial
  | paren e => exact hw
  | bin o l r => exact ⟨Nat.le_trans h hw.1, hw.2.1, hw.2.2⟩
  | pre p e => exact ⟨Nat.le_trans h hw.1, hw.2⟩

/-- **Round trip, continuation form.**  If the loop, started with the finished trace `val e` in front of `rest`, yields
    `res`, then parsing the tokens of `e` followed by `rest` yields `res` (fuel: one more than the number of tokens). -/
theorem main (T : Tbl) (hT : T.Consistent) : ∀ (e : PExpr) (ctx q : Nat) (rest : List PTok) (res),
    WF T ctx e → q ≤ ctx → Safe T ctx rest → (∀ g, rest.length + 1 ≤ g → loop T g q (val e) rest = some res) →
    ∀ f, (toks e ++ rest).length + 1 ≤ f → parseE T f q (toks e ++ rest) = some res := by
  intro e
  induction e with
  | atom n =>
    intro ctx q rest res _ _ _ hl f hf
    obtain ⟨f, rfl⟩ := succ_of_le hf
    simp only [toks, List.cons_append, List.nil_append, List.length_cons] at hf ⊢
    rw [parseE_atom]
    exact hl f (by omega)
  | paren e ih =>
    intro ctx q rest res hw _ _ hl f hf
    obtain ⟨f, rfl⟩ := succ_of_le hf
    simp only [toks, List.cons_append, List.nil_append, List.append_assoc, List.length_cons, List.length_append] at hf ⊢
    -- inside the parentheses the context is 0, and the loop stops at the `)`
    have stop : ∀ g, (PTok.rp :: rest).length + 1 ≤ g → loop T g 0 (val e) (.rp :: rest) = some (val e, .rp :: rest) :=
      fun g hg => loop_stop T (Nat.zero_lt_of_lt hg) fun _ _ h => by cases h
    have inner : parseE T f 0 (toks e ++ .rp :: rest) = some (val e, .rp :: rest) := by
      refine ih 0 0 _ _ hw (Nat.le_refl 0) (fun _ _ h => by cases h) stop f ?_
      simp only [List.length_append, List.length_cons]
      omega
    rw [parseE_lp, inner]
    exact hl f (by omega)
  | pre p e ih =>
    intro ctx q rest res hw hq hs hl f hf
    obtain ⟨f, rfl⟩ := succ_of_le hf
    simp only [toks, List.cons_append, List.nil_append, List.length_cons] at hf ⊢
    -- the operand is parsed in context `pbp p`, and the head of `rest` does not continue it
    have stop : ∀ g, rest.length + 1 ≤ g → loop T g (T.pbp p) (val e) rest = some (val e, rest) :=
      fun g hg => loop_stop T (Nat.zero_lt_of_lt hg) fun t ts h => (hs t ts h).2 p hw.1
    have safe : Safe T (T.pbp p) rest := safe_mono hs (Nat.le_trans hw.1 (le_pbp T p))
    have operand : parseE T f (T.pbp p) (toks e ++ rest) = some (val e, rest) :=
      ih (T.pbp p) (T.pbp p) rest _ hw.2 (Nat.le_refl _) safe stop f (by omega)
    rw [parseE_pre, operand]
    rw [List.length_append] at hf
    exact hl f (by omega)
  | bin o l r ihl ihr =>
    intro ctx q rest res hw hq hs hl f hf
    simp only [toks, List.append_assoc, List.cons_append, List.nil_append] at hf ⊢
    refine ihl (T.lctx o) q _ res hw.2.1 (Nat.le_trans hq (Nat.le_trans hw.1 (le_lctx T o))) (safe_op hT o _) (fun g hg => ?_) f hf
    obtain ⟨g, rfl⟩ := succ_of_le hg
    simp only [List.length_cons, List.length_append] at hg
    -- the right operand is parsed in context `next o`, and the head of `rest` does not continue it
    have stop : ∀ g, rest.length + 1 ≤ g → loop T g (T.next o) (val r) rest = some (val r, rest) :=
      fun g hg => loop_stop T (Nat.zero_lt_of_lt hg) fun t ts h => (hs t ts h).1 o hw.1
    have safe : Safe T (T.next o) rest := safe_mono hs (Nat.le_trans hw.1 (le_next T o))
    have right : parseE T g (T.next o) (toks r ++ rest) = some (val r, rest) := by
      refine ihr (T.next o) (T.next o) rest _ hw.2.2 (Nat.le_refl _) safe stop g ?_
      rw [List.length_append]
      omega
    rw [loop_op, if_pos (Nat.le_trans hq hw.1), right]
    exact hl g (by omega)

theorem roundtrip (T : Tbl) (hT : T.Consistent) (e : PExpr) (hw : WF T 0 e) :
    ∃ f, ∀ g, f ≤ g → parseE T g 0 (toks e) = some (val e, []) := by
  refine ⟨(toks e).length + 1, fun g hg => ?_⟩
  have := main T hT e 0 0 [] (val e, []) hw (Nat.le_refl 0) (fun _ _ e => by cases e)
    (fun g hg => loop_stop T hg (fun _ _ e => by cases e)) g
  rw [List.append_nil] at this
  exact this hg

theorem parenExt_val {t t' : PExpr} (h : ParenExt t t') : val t' = val t := by
  induction h with
  | atom n => rfl
  | bin o _ _ ihl ihr => simp [val, ihl, ihr]
  | pre p _ ih => simp [val, ih]
  | paren _ ih => simpa [val] using ih
  | wrap _ ih => simpa [val] using ih

theorem parenExt_wf (T : Tbl) {t t' : PExpr} (h : ParenExt t t') : ∀ c, WF T c t → WF T c t' := by
  induction h with
  | atom n => intro c hw; exact hw
  | bin o _ _ ihl ihr => intro c hw; exact ⟨hw.1, ihl _ hw.2.1, ihr _ hw.2.2⟩
  | pre p _ ih => intro c hw; exact ⟨hw.1, ih _ hw.2⟩
  | paren _ ih => intro c hw; exact ih 0 hw
  | wrap _ ih => intro c hw; exact ih 0 (wf_mono T (Nat.zero_le _) hw)

end UtapModel.C09.Pratt
