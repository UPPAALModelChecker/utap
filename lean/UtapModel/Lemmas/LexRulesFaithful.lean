/- From the rule table to honest lexemes: every pattern kind of lexer.l matches exactly as many newline characters as
   its action reports to the tracker — except the string rule. -/
import UtapModel.Lemmas.LexLinesRun

namespace UtapModel.LexLines

/-- the `tracker.newline` argument that reports exactly the newlines a pattern matches -/
def Pat.nlArg : Pat → NlArg
  | .contin | .nl1 => .one
  | .nls => .yyleng
  | .crlfs => .yylengHalf
  | _ => .none

/-- does the `tracker.newline` argument of a rule fit its pattern?  (`str` is the known exception and is handled by
    a hypothesis on the text; `eof` matches no text) -/
def Pat.nlOK (p : Pat) (a : NlArg) : Bool :=
  p == .eof || (a == p.nlArg && match p with
    | .lit s => !(s.contains '\n')
    | _ => true)

def Faithful (rules : List Rule) : Bool := rules.all fun r => r.pat.nlOK r.nl

theorem noNl_take_add {t : List Char} {a b : Nat} (h1 : noNl (t.take a)) (h2 : noNl ((t.drop a).take b)) :
    noNl (t.take (a + b)) := by
  rw [List.take_add]; exact noNl_append.mpr ⟨h1, h2⟩

/-- the shape of most match lengths: a length under a test, 0 otherwise -/
theorem noNl_take_ite {t : List Char} {c : Prop} [Decidable c] {n : Nat} (h : c → noNl (t.take n)) :
    noNl (t.take (if c then n else 0)) := by
  split
  · exact h ‹_›
  · exact noNl_nil

theorem spanLen_le (p : Char → Bool) (t : List Char) : spanLen p t ≤ t.length := by
  induction t with
  | nil => exact Nat.le_refl 0
  | cons a as ih =>
    rw [spanLen]
    split
    · exact Nat.succ_le_succ ih
    · exact Nat.zero_le _

theorem take_spanLen_all (p : Char → Bool) (t : List Char) : ∀ c ∈ t.take (spanLen p t), p c = true := by
  induction t with
  | nil => exact fun c hc => nomatch hc
  | cons a as ih =>
    intro c hc
    rw [spanLen] at hc
    split at hc
    · next ha =>
      rcases List.mem_cons.mp hc with rfl | hc
      · exact ha
      · exact ih c hc
    · cases hc

theorem noNl_take_spanLen {p : Char → Bool} (hp : ∀ c, p c = true → c ≠ '\n') (t : List Char) :
    noNl (t.take (spanLen p t)) := fun c hc => hp c (take_spanLen_all p t c hc)

theorem isDigit_ne_nl (c : Char) (h : isDigit c = true) : c ≠ '\n' := by
  rintro rfl; simp [isDigit] at h

theorem isBlank_ne_nl (c : Char) (h : isBlank c = true) : c ≠ '\n' := by
  rintro rfl; simp [isBlank] at h

theorem isPrefix_take {s t : List Char} (h : isPrefix s t = true) : t.take s.length = s := by
  induction s, t using isPrefix.induct with
  | case1 => rfl
  | case2 => cases h
  | case3 a as b bs ih =>
    simp only [isPrefix, Bool.and_eq_true, beq_iff_eq] at h
    rw [List.length_cons, List.take_succ_cons, ih h.2, h.1]

theorem nls_honest (t : List Char) (r : Rule) :
    Honest ⟨t.take (spanLen (· == '\n') t), spanLen (· == '\n') t, r⟩ := by
  have hrep : t.take (spanLen (· == '\n') t) = List.replicate (spanLen (· == '\n') t) '\n' :=
    List.eq_replicate_iff.mpr ⟨List.length_take_of_le (spanLen_le _ t),
      fun c hc => beq_iff_eq.mp (take_spanLen_all _ t c hc)⟩
  rw [hrep]
  cases spanLen (· == '\n') t with
  | zero => exact honest_of_noNl noNl_nil r
  | succ k => exact ⟨by simp [countNl], fun _ => ⟨List.replicate k '\n', List.replicate_succ'⟩⟩

/-- `(\r\n)+`: half as many newlines as characters, which is what `yyleng / 2` reports. -/
theorem crlfs_honest (r : Rule) : ∀ t : List Char, Honest ⟨t.take (2 * crlfPairs t), crlfPairs t, r⟩
  | [] | [_] => honest_of_noNl noNl_nil r
  | a :: b :: cs => by
    rw [crlfPairs]
    split
    · next hab =>
      simp only [Bool.and_eq_true, beq_iff_eq] at hab
      obtain ⟨rfl, rfl⟩ := hab
      obtain ⟨ih1, ih2⟩ := crlfs_honest r cs
      have htake : ('\r' :: '\n' :: cs).take (2 * (crlfPairs cs + 1)) = '\r' :: '\n' :: cs.take (2 * crlfPairs cs) := by
        rw [Nat.mul_add]; rfl
      rw [htake]
      refine ⟨congrArg (· + 1) ih1, fun _ => ?_⟩
      by_cases hz : crlfPairs cs = 0
      · exact ⟨['\r'], by rw [hz]; rfl⟩
      · obtain ⟨w, hw⟩ := ih2 hz
        exact ⟨'\r' :: '\n' :: w, congrArg ('\r' :: '\n' :: ·) hw⟩
    · exact honest_of_noNl noNl_nil r

theorem contin_take (t : List Char) (hn : 0 < continLen t) :
    ∃ w, noNl w ∧ t.take (continLen t) = w ++ ['\n'] := by
  cases t with
  | nil => cases hn
  | cons c r =>
    rw [continLen] at hn ⊢
    by_cases hc : (c == '\\') = true
    · rw [if_pos hc] at hn ⊢
      generalize hd : r.drop (spanLen isBlank r) = d at hn ⊢
      cases d with
      | nil => cases hn
      | cons n rest =>
        dsimp only at hn ⊢
        by_cases hnn : (n == '\n') = true
        · rw [if_pos hnn]
          refine ⟨c :: r.take (spanLen isBlank r), noNl_cons.mpr ⟨?_, noNl_take_spanLen isBlank_ne_nl r⟩, ?_⟩
          · rintro rfl
            cases hc
          · rw [List.take_succ_cons, List.take_add, hd, beq_iff_eq.mp hnn]
            rfl
        · rw [if_neg hnn] at hn
          cases hn
    · rw [if_neg hc] at hn
      cases hn

theorem noNl_take_lineCommentLen : ∀ t : List Char, noNl (t.take (lineCommentLen t))
  | a :: b :: r => noNl_take_ite fun hab => by
    simp only [Bool.and_eq_true, beq_iff_eq] at hab
    obtain ⟨rfl, rfl⟩ := hab
    exact noNl_cons.mpr ⟨by decide, noNl_cons.mpr ⟨by decide, noNl_take_spanLen (fun c hc => by simpa using hc) r⟩⟩
  | [] | [_] => noNl_nil

theorem noNl_take_identLen : ∀ t : List Char, noNl (t.take (identLen t))
  | [] => noNl_nil
  | c :: r => noNl_take_ite fun hc => noNl_cons.mpr ⟨by rintro rfl; simp [isAlpha] at hc,
    noNl_take_spanLen (fun c hc => by rintro rfl; simp [isIdChr, isAlpha, isDigit] at hc) r⟩

theorem noNl_take_anyLen : ∀ t : List Char, noNl (t.take (anyLen t))
  | [] => noNl_nil
  | c :: _ => noNl_take_ite fun hc => noNl_cons.mpr ⟨by simpa using hc, noNl_nil⟩

/-- `{num}` after a newline-free prefix, as it occurs in the fraction and exponent parts of `float` -/
theorem noNl_take_digits {pre : List Char} (hpre : noNl pre) (r : List Char) :
    noNl ((pre ++ r).take (if spanLen isDigit r = 0 then 0 else spanLen isDigit r + pre.length)) := by
  split
  · exact noNl_nil
  · rw [Nat.add_comm, List.take_length_add_append]
    exact noNl_append.mpr ⟨hpre, noNl_take_spanLen isDigit_ne_nl r⟩

theorem noNl_take_fracLen : ∀ r : List Char, noNl (r.take (fracLen r))
  | [] => noNl_nil
  | c :: r => noNl_take_ite fun hc =>
    noNl_take_digits (pre := [c]) (noNl_cons.mpr ⟨by rintro rfl; simp at hc, noNl_nil⟩) r

theorem noNl_take_expLen : ∀ r : List Char, noNl (r.take (expLen r))
  | [] => noNl_nil
  | [_] => noNl_take_ite fun _ => noNl_nil
  | e :: s :: r4 => noNl_take_ite fun he => by
    have hene : e ≠ '\n' := by rintro rfl; simp at he
    split
    · next hs =>
      exact noNl_take_digits (pre := [e, s]) (noNl_cons.mpr ⟨hene, noNl_cons.mpr ⟨by rintro rfl; simp at hs, noNl_nil⟩⟩) r4
    · exact noNl_take_digits (pre := [e]) (noNl_cons.mpr ⟨hene, noNl_nil⟩) (s :: r4)

theorem noNl_take_floatLen (t : List Char) : noNl (t.take (floatLen t)) := by
  unfold floatLen
  split
  · exact noNl_nil
  · exact noNl_take_add (noNl_take_add (noNl_take_spanLen isDigit_ne_nl t) (noNl_take_fracLen _)) (noNl_take_expLen _)

theorem noNl_take_expect2Tail : ∀ t : List Char, noNl (t.take (expect2Tail t)) := by
  intro t
  induction t using expect2Tail.induct with
  | case1 => exact noNl_nil
  | case2 c r hb => rw [expect2Tail, if_pos hb]; exact noNl_nil
  | case3 c r hb hs ho ih =>
    rw [expect2Tail, if_neg hb, if_pos hs, if_pos ho]
    exact noNl_cons.mpr ⟨by rintro rfl; simp at hb, ih⟩
  | case4 c r hb hs ho => rw [expect2Tail, if_neg hb, if_pos hs, if_neg ho]; exact noNl_nil
  | case5 c r hb hs ih =>
    rw [expect2Tail, if_neg hb, if_neg hs]
    exact noNl_cons.mpr ⟨by rintro rfl; simp at hb, ih⟩

/-- both `EXPECT:` patterns: the keyword, then a newline-free value of length `tail` -/
theorem noNl_take_expect (t : List Char) (tail : Nat) (h : noNl ((t.drop 7).take tail)) :
    noNl (t.take (if isPrefix "EXPECT:".toList t then 7 + tail else 0)) :=
  noNl_take_ite fun hpre => noNl_take_add
    (by rw [show t.take 7 = "EXPECT:".toList from isPrefix_take hpre]; exact fun c hc => by rintro rfl; simp at hc) h

/-- `hstr`: `\"[^\"]+\"` can match newlines while its action calls no `tracker.newline`, so its lexeme is honest only
    where the text matched has none. -/
theorem honest_of_nlOK {p : Pat} {a : NlArg} (hok : p.nlOK a = true) (t : List Char)
    (hstr : p = .str → noNl (t.take (matchLen p t))) (hn : 0 < matchLen p t) (r : Rule) :
    Honest ⟨t.take (matchLen p t), nlValue a (matchLen p t), r⟩ := by
  have hne : p ≠ .eof := by rintro rfl; exact Nat.lt_irrefl 0 hn
  simp only [Pat.nlOK, beq_eq_false_iff_ne.mpr hne, Bool.false_or, Bool.and_eq_true, beq_iff_eq] at hok
  obtain ⟨rfl, hlit⟩ := hok
  cases p with
  | lit s =>
    exact honest_of_noNl (noNl_take_ite fun hpre => by
      rw [isPrefix_take hpre]; exact fun c hc => by rintro rfl; simp [hc] at hlit) r
  | eof => exact absurd rfl hne
  | contin =>
    obtain ⟨w, hw, htake⟩ := contin_take t hn
    simp only [matchLen, htake]
    exact honest_of_ends hw r
  | nl1 =>
    simp only [matchLen] at hn ⊢
    unfold nl1Len at hn ⊢
    split at hn
    · next c rest =>
      split at hn
      · next hc => rw [if_pos hc, beq_iff_eq.mp hc]; exact honest_of_ends noNl_nil r
      · cases hn
    · cases hn
  | nls => exact nls_honest t r
  | crlfs =>
    simp only [matchLen, nlValue, Pat.nlArg, Nat.mul_div_cancel_left _ (Nat.zero_lt_two)]
    exact crlfs_honest r t
  | str => exact honest_of_noNl (hstr rfl) r
  | lineComment => exact honest_of_noNl (noNl_take_lineCommentLen t) r
  | blanks => exact honest_of_noNl (noNl_take_spanLen isBlank_ne_nl t) r
  | ident => exact honest_of_noNl (noNl_take_identLen t) r
  | num => exact honest_of_noNl (noNl_take_spanLen isDigit_ne_nl t) r
  | float => exact honest_of_noNl (noNl_take_floatLen t) r
  | any => exact honest_of_noNl (noNl_take_anyLen t) r
  | expect => exact honest_of_noNl (noNl_take_expect t _ (noNl_take_spanLen (fun c hc => by rintro rfl; simp at hc) _)) r
  | expect2 => exact honest_of_noNl (noNl_take_expect t _ (noNl_take_expect2Tail _)) r

end UtapModel.LexLines
