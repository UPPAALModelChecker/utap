/-
C09 — lemmas about the lexer model (core Lean only): locality of a lexer step, skipping of trivia, fuel independence.

Three notions carry the file.  `headOK r c`: can rule `r` fire on first character `c` at all — a rule that cannot
matches nothing (`matchLen_zero_of_head`), so every "which rule wins here" argument only looks at the few rules of the
character's class.  `isLit`: `lit` and `litOld` rules match alike (`matchLen_lit`).  `lexFrom`: `lexGo` with fuel enough
for its input; fuel is dealt with once (`lexGo_fuel`), everything after is stated without it.
-/
import UtapModel.Model.C09Render
namespace UtapModel.C09

theorem spanLen_le (p : Ch → Bool) (s : List Ch) : spanLen p s ≤ s.length := by
  induction s with
  | nil => simp [spanLen]
  | cons c cs ih => simp only [spanLen]; split <;> simp <;> omega

theorem spanLen_append {p : Ch → Bool} {w rest : List Ch} (h : stopsIn p w rest = true) :
    spanLen p (w ++ rest) = spanLen p w := by
  induction w with
  | nil =>
    cases rest with
    | nil => rfl
    | cons d r => simpa [stopsIn, spanLen] using h
  | cons c cs ih =>
    simp only [List.cons_append, spanLen]
    split
    · rename_i hc
      rw [ih]
      simp only [stopsIn, spanLen, hc, if_true, List.length_cons, Nat.add_lt_add_iff_right] at h
      exact h
    · rfl

theorem spanLen_append_of_headNot {p : Ch → Bool} {rest : List Ch} (h : headNot rest p = true) (w : List Ch) :
    spanLen p (w ++ rest) = spanLen p w :=
  spanLen_append (Bool.or_eq_true_iff.mpr (.inr h))

theorem spanLen_all {p : Ch → Bool} {w : List Ch} (h : w.all p = true) : spanLen p w = w.length := by
  induction w with
  | nil => rfl
  | cons c cs ih => simp at h; simp [spanLen, h.1, ih (by simpa using h.2)]

theorem spanLen_head_false (p : Ch → Bool) (c : Ch) (cs : List Ch) (h : p c = false) : spanLen p (c :: cs) = 0 := by
  simp [spanLen, h]

theorem pre_iff {l s : List Ch} : pre l s = true ↔ l <+: s := by
  rw [← List.isPrefixOf_iff_prefix]
  induction l generalizing s with
  | nil => simp [pre]
  | cons a l ih => cases s <;> simp [pre, ih]

theorem pre_self (w : List Ch) : pre w w = true := pre_iff.mpr (List.prefix_refl w)

theorem pre_local {l w : List Ch} {d : Ch} (r : List Ch) (h : pre (w ++ [d]) l = false) :
    pre l (w ++ d :: r) = pre l w := by
  have hw : w ++ [d] <+: w ++ d :: r := (List.prefix_append_right_inj w).mpr (by simp)
  rw [Bool.eq_iff_iff, pre_iff, pre_iff]
  refine ⟨fun h1 => ?_, fun h1 => h1.trans (List.prefix_append w _)⟩
  rcases List.prefix_or_prefix_of_prefix h1 hw with h2 | h2
  · rcases List.prefix_concat_iff.mp h2 with e | e
    · rw [e, pre_self] at h; cases h
    · exact e
  · rw [pre_iff.mpr h2] at h; cases h

theorem pre2_local {a b c0 : Ch} {w' rest : List Ch} (h : pre [a, b] (c0 :: w' ++ rest.take 1) = false) :
    pre [a, b] (c0 :: w' ++ rest) = false ∧ pre [a, b] (c0 :: w') = false := by
  cases w' with
  | nil => cases rest <;> simpa [pre] using h
  | cons c1 w'' => simpa [pre] using h

def headOK (r : Rule) (c : Ch) : Bool :=
  match r with
  | .lit l _ => l.head? == some c
  | .litOld l _ => l.head? == some c
  | .cont => c == 92
  | .lineComment => c == 47
  | .blanks => isBlank c
  | .commentOpen => c == 47
  | .newlines => c == 10
  | .crlf => c == 13
  | .ident => isAlpha c
  | .num => isDigit c
  | .float => isDigit c
  | .anyChar => c != 10
  | .string => c == 34

def isLit : Rule → Option (List Ch)
  | .lit l _ => some l
  | .litOld l _ => some l
  | _ => none

theorem matchLen_lit {r : Rule} {l : List Ch} (h : isLit r = some l) (s : List Ch) :
    matchLen r s = if pre l s = true then l.length else 0 := by
  cases r with
  | lit l' t | litOld l' t => cases h; rfl
  | _ => cases h

theorem headOK_lit {r : Rule} {l : List Ch} (h : isLit r = some l) (c : Ch) : headOK r c = (l.head? == some c) := by
  cases r with
  | lit l' t | litOld l' t => cases h; rfl
  | _ => cases h

theorem matchLen_zero_of_head (r : Rule) (c : Ch) (s : List Ch) (h : headOK r c = false) : matchLen r (c :: s) = 0 := by
  cases r with
  | lit l t | litOld l t =>
    cases l with
    | nil => simp [matchLen]
    | cons a l => simp [headOK] at h; simp [matchLen, pre, h]
  | lineComment | commentOpen => simp [headOK] at h; simp [matchLen, pre, Ne.symm h]
  | _ => simp [headOK] at h; simp [matchLen, spanLen, floatLen, crlfLen, h]

theorem headNot_or (rest : List Ch) (p q : Ch → Bool) :
    headNot rest (fun d => p d || q d) = (headNot rest p && headNot rest q) := by
  cases rest <;> simp [headNot]

theorem fracLen_le (s : List Ch) : fracLen s ≤ s.length := by
  unfold fracLen
  split
  · have := spanLen_le isDigit ‹_›; split <;> simp <;> omega
  · omega

theorem fracLen_append (w rest : List Ch) (hd : headNot rest isDigit = true) (hp : headNot rest (· == 46) = true) :
    fracLen (w ++ rest) = fracLen w := by
  cases w with
  | nil =>
    cases rest with
    | nil => rfl
    | cons d r => simp [headNot] at hp; simp [fracLen, hp]
  | cons c w =>
    by_cases hc : c = 46
    · subst hc; simp [fracLen, spanLen_append_of_headNot hd]
    · simp [fracLen, hc]

theorem expLen_single (c : Ch) : expLen [c] = 0 := by
  simp only [expLen]; split <;> rfl

/-- `hw` cannot be dropped: `e` alone is no exponent part (`expLen_single`), `e` followed by `+1` is one -/
theorem expLen_append (w rest : List Ch) (hd : headNot rest isDigit = true)
    (he : headNot rest (fun d => d == 101 || d == 69) = true) (hw : expLen w = w.length) : expLen (w ++ rest) = expLen w := by
  match w with
  | [] =>
    cases rest with
    | nil => rfl
    | cons d r => simp [headNot] at he; simp [expLen, he]
  | [c] => rw [expLen_single] at hw; cases hw
  | c :: sg :: w =>
    simp only [List.cons_append, expLen, spanLen_append_of_headNot hd]
    rw [← List.cons_append, spanLen_append_of_headNot hd]

theorem floatLen_append (w rest : List Ch) (hw : floatLen w = w.length) (hpos : w ≠ [])
    (h : headNot rest (fun d => isDigit d || d == 46 || d == 101 || d == 69) = true) :
    floatLen (w ++ rest) = floatLen w := by
  simp only [headNot_or, Bool.and_eq_true] at h
  obtain ⟨⟨⟨hd, hp⟩, h101⟩, h69⟩ := h
  have hlen : 0 < w.length := List.length_pos_iff.mpr hpos
  have hdle := spanLen_le isDigit w
  have hfle := fracLen_le (w.drop (spanLen isDigit w))
  simp only [List.length_drop] at hfle
  have hd0 : spanLen isDigit w ≠ 0 := by
    intro e
    simp only [floatLen, e, if_true] at hw
    omega
  simp only [floatLen, hd0, if_false] at hw
  simp only [floatLen, spanLen_append_of_headNot hd, hd0, if_false]
  rw [List.drop_append_of_le_length hdle, fracLen_append _ _ hd hp, List.drop_append_of_le_length (by omega),
    expLen_append _ _ hd (by simp [headNot_or, h101, h69])]
  simp only [List.length_drop]
  omega

theorem matchLen_local {rules : List Rule} {w rest : List Ch} (h : Closed rules w rest = true) :
    ∀ r ∈ rules, matchLen r (w ++ rest) = matchLen r w := by
  cases w with
  | nil => simp [Closed] at h
  | cons c0 w' =>
    simp only [Closed, Bool.and_eq_true, bne_iff_ne, ne_eq, Bool.not_eq_true', Bool.or_eq_true] at h
    obtain ⟨⟨⟨⟨⟨⟨⟨⟨⟨⟨h92, h34⟩, hbl⟩, h10⟩, h13⟩, hsl⟩, hst⟩, hid⟩, hnum⟩, hfl⟩, hlit⟩ := h
    intro r hr
    cases hh : headOK r c0 with
    | false => rw [List.cons_append, matchLen_zero_of_head r c0 _ hh, matchLen_zero_of_head r c0 _ hh]
    | true =>
      cases r with
      | lit l t | litOld l t =>
        cases rest with
        | nil => rw [List.append_nil]
        | cons d r' =>
          simp only [noLit, List.all_eq_true] at hlit
          have := hlit _ hr
          simp only [Bool.not_eq_true'] at this
          simp only [matchLen, pre_local r' this]
      | cont | string | blanks | newlines | crlf => simp [headOK, *] at hh
      | lineComment => simp only [matchLen, pre2_local hsl, Bool.false_eq_true, if_false]
      | commentOpen => simp only [matchLen, pre2_local hst]
      | ident =>
        rcases hid with hid | hid
        · rw [headOK, hid] at hh; cases hh
        · simp only [matchLen, List.cons_append, spanLen_append hid]
      | num => exact spanLen_append hnum
      | float =>
        rcases hfl with hfl | hfl
        · rw [headOK, hfl] at hh; cases hh
        · exact floatLen_append _ rest (by simpa using hfl.1) (by simp) hfl.2
      | anyChar => rfl

theorem maxMatch_congr {rules : List Rule} {s s' : List Ch} (h : ∀ r ∈ rules, matchLen r s = matchLen r s') :
    maxMatch rules s = maxMatch rules s' := by
  induction rules with
  | nil => rfl
  | cons r rs ih =>
    simp only [maxMatch, List.foldr_cons] at ih ⊢
    rw [h r (by simp), ih (fun r hr => h r (by simp [hr]))]

theorem best_congr {rules : List Rule} {s s' : List Ch} (h : ∀ r ∈ rules, matchLen r s = matchLen r s') :
    best rules s = best rules s' := by
  simp only [best, maxMatch_congr h, ← List.head?_filter]
  rw [List.filter_congr (fun r hr => by rw [h r hr])]

theorem maxMatch_le_iff (rules : List Rule) (s : List Ch) (m : Nat) :
    maxMatch rules s ≤ m ↔ ∀ r ∈ rules, matchLen r s ≤ m := by
  induction rules with
  | nil => simp [maxMatch]
  | cons a rs ih =>
    simp only [maxMatch, List.foldr_cons] at ih ⊢
    rw [Nat.max_le, ih, List.forall_mem_cons]

theorem mem_takeWhile {α} {p : α → Bool} {l : List α} {x : α} (h : x ∈ l.takeWhile p) : x ∈ l ∧ p x = true :=
  ⟨List.takeWhile_subset p h, List.all_eq_true.mp List.all_takeWhile x h⟩

theorem find?_of_takeWhile {α} [DecidableEq α] (p : α → Bool) (a : α) (l : List α) (ha : a ∈ l) (hp : p a = true)
    (h : ∀ x ∈ l.takeWhile (fun x => x != a), p x = false) : l.find? p = some a := by
  induction l with
  | nil => cases ha
  | cons x xs ih =>
    by_cases hx : x = a
    · rw [hx, List.find?_cons_of_pos hp]
    · have hne : (x != a) = true := by simpa using hx
      simp only [List.takeWhile_cons, hne, if_true, List.mem_cons, forall_eq_or_imp] at h
      rw [List.find?_cons_of_neg (by simp [h.1])]
      exact ih ((List.mem_cons.mp ha).resolve_left (Ne.symm hx)) h.2

theorem best_eq (rules : List Rule) (r0 : Rule) {s : List Ch} {m : Nat} (hr0 : r0 ∈ rules) (hm : matchLen r0 s = m) (hpos : 0 < m)
    (hle : ∀ r ∈ rules, matchLen r s ≤ m) (hlt : ∀ r ∈ rules.takeWhile (fun r => r != r0), matchLen r s ≠ m) :
    best rules s = some (r0, m) := by
  have hmax : maxMatch rules s = m :=
    Nat.le_antisymm ((maxMatch_le_iff rules s m).mpr hle) (hm ▸ (maxMatch_le_iff rules s _).mp (Nat.le_refl _) r0 hr0)
  have hf := find?_of_takeWhile (fun r => matchLen r s == m) r0 rules hr0 (by simp [hm]) (fun r hr => by simpa using hlt r hr)
  simp [best, hmax, hf, Nat.ne_of_gt hpos]

theorem best_pos {rules : List Rule} {s : List Ch} {r : Rule} {n : Nat} (h : best rules s = some (r, n)) : 0 < n := by
  simp only [best] at h
  split at h
  · cases h
  · simp only [Option.map_eq_some_iff, Prod.mk.injEq] at h
    obtain ⟨_, _, _, rfl⟩ := h
    omega

theorem best_by_head (rules : List Rule) (r0 : Rule) (c : Ch) {s : List Ch} {m : Nat} (hr0 : r0 ∈ rules)
    (hm : matchLen r0 (c :: s) = m) (hpos : 0 < m)
    (h : ∀ r ∈ rules, headOK r c = true → r ≠ r0 → matchLen r (c :: s) < m) : best rules (c :: s) = some (r0, m) := by
  have hlt : ∀ r ∈ rules, r ≠ r0 → matchLen r (c :: s) < m := by
    intro r hr e
    cases hh : headOK r c with
    | false => rw [matchLen_zero_of_head r c s hh]; exact hpos
    | true => exact h r hr hh e
  refine best_eq rules r0 hr0 hm hpos (fun r hr => ?_) (fun r hr => ?_)
  · by_cases e : r = r0
    · rw [e, hm]; exact Nat.le_refl m
    · exact Nat.le_of_lt (hlt r hr e)
  · exact Nat.ne_of_lt (hlt r (mem_takeWhile hr).1 (by simpa using (mem_takeWhile hr).2))

theorem commentStep_nil_iff (st : Bool) (s : List Ch) : commentStep st s = .eof ↔ s = [] := by
  cases s with
  | nil => simp [commentStep]
  | cons c cs =>
    simp only [commentStep]
    split <;> simp
    split <;> simp

theorem lexGo_true_succ (cfg : Cfg) (f n : Nat) (s : List Ch) :
    lexGo cfg (f + 1) true n s =
      match commentStep cfg.expectStops s with
      | .eof => [.commentNotClosed]
      | .close => lexGo cfg f false n (s.drop 2)
      | .expect k => .expect ((s.take k).drop 7) :: lexGo cfg f true (n + 1) (s.drop k)
      | .skip => lexGo cfg f true n (s.drop 1) := by
  simp only [lexGo]; rfl

theorem lexGo_false_cons (cfg : Cfg) (f n : Nat) (c : Ch) (s : List Ch) :
    lexGo cfg (f + 1) false n (c :: s) =
      match best cfg.rules (c :: s) with
      | none => []
      | some (r, len) =>
        (action cfg n r ((c :: s).take len)).1 ++
          lexGo cfg f (action cfg n r ((c :: s).take len)).2 (n + (action cfg n r ((c :: s).take len)).1.length) ((c :: s).drop len) := by
  simp only [lexGo]; rfl

theorem lexGo_fuel (cfg : Cfg) : ∀ (f f' : Nat) (b : Bool) (n : Nat) (s : List Ch),
    s.length < f → s.length < f' → lexGo cfg f b n s = lexGo cfg f' b n s := by
  intro f
  induction f with
  | zero => intro f' b n s h; omega
  | succ f ih =>
    intro f' b n s h h'
    cases f' with
    | zero => omega
    | succ f' =>
      cases s with
      | nil => cases b <;> rfl
      | cons c cs =>
        -- every step consumes at least one character
        have hd : ∀ k b' n', 0 < k → lexGo cfg f b' n' ((c :: cs).drop k) = lexGo cfg f' b' n' ((c :: cs).drop k) := by
          intro k b' n' hk
          apply ih <;> simp only [List.length_drop, List.length_cons] at h h' ⊢ <;> omega
        cases b with
        | true =>
          rw [lexGo_true_succ, lexGo_true_succ]
          cases hc : commentStep cfg.expectStops (c :: cs) with
          | eof => rfl
          | close => exact hd 2 _ _ (by omega)
          | expect k =>
            have hk : 0 < k := by
              simp only [commentStep] at hc
              split at hc
              · injection hc with hc; omega
              · split at hc <;> cases hc
            exact congrArg _ (hd k _ _ hk)
          | skip => exact hd 1 _ _ (by omega)
        | false =>
          rw [lexGo_false_cons, lexGo_false_cons]
          cases hb : best cfg.rules (c :: cs) with
          | none => rfl
          | some rl => exact congrArg _ (hd rl.2 _ _ (best_pos hb))

def lexFrom (cfg : Cfg) (b : Bool) (n : Nat) (s : List Ch) : List Tok := lexGo cfg (s.length + 1) b n s

theorem lexGo_eq_lexFrom (cfg : Cfg) {f : Nat} (b : Bool) (n : Nat) (s : List Ch) (h : s.length < f) :
    lexGo cfg f b n s = lexFrom cfg b n s :=
  lexGo_fuel cfg f _ b n s h (Nat.lt_succ_self _)

theorem lexFrom_step (cfg : Cfg) (x after : List Ch) (r : Rule) (n : Nat)
    (hb : best cfg.rules (x ++ after) = some (r, x.length)) :
    lexFrom cfg false n (x ++ after) =
      (action cfg n r x).1 ++ lexFrom cfg (action cfg n r x).2 (n + (action cfg n r x).1.length) after := by
  cases x with
  | nil => exact absurd (best_pos hb) (Nat.lt_irrefl 0)
  | cons c x =>
    rw [List.cons_append] at hb
    rw [lexFrom, List.cons_append, lexGo_false_cons, hb]
    simp only []
    rw [← List.cons_append, List.take_left, List.drop_left, lexGo_eq_lexFrom]
    simp only [List.length_append, List.length_cons]
    omega

theorem lexFrom_step_nil (cfg : Cfg) (x after : List Ch) (r : Rule) (n : Nat)
    (hb : best cfg.rules (x ++ after) = some (r, x.length)) (ha : action cfg n r x = ([], false)) :
    lexFrom cfg false n (x ++ after) = lexFrom cfg false n after := by
  rw [lexFrom_step cfg x after r n hb, ha]
  rfl

theorem lexFrom_skip (cfg : Cfg) (n : Nat) (c : Ch) (s : List Ch) (h : commentStep cfg.expectStops (c :: s) = .skip) :
    lexFrom cfg true n (c :: s) = lexFrom cfg true n s := by
  rw [lexFrom, lexGo_true_succ, h]
  rfl

theorem lexFrom_close (cfg : Cfg) (n : Nat) (s : List Ch) : lexFrom cfg true n (42 :: 47 :: s) = lexFrom cfg false n s := by
  have h : commentStep cfg.expectStops (42 :: 47 :: s) = .close := by simp [commentStep, expectAt, expectLit, pre]
  rw [lexFrom, lexGo_true_succ, h]
  exact lexGo_eq_lexFrom cfg false n s (Nat.lt_succ_of_lt (Nat.lt_succ_self _))

/-- Facts about the rule table the trivia lemmas need (decidable; evaluated by the kernel for the generated table):
    no literal starts with a blank / newline / CR, none starts with `//` or `/*`, a literal starting with a backslash
    does not continue with a blank or newline, `[ \t]+` is listed before `.`, and the special rules are present. -/
def RulesWF (rules : List Rule) : Bool :=
  rules.all (fun r => match isLit r with
    | none => true
    | some l =>
      (match l with
       | [] => false
       | c :: _ => !(isBlank c) && c != 10 && c != 13) &&
      !(pre [47, 47] l) && !(pre [47, 42] l) &&
      (match l with
       | 92 :: c1 :: _ => !(isBlank c1) && c1 != 10
       | _ => true)) &&
  (rules.takeWhile (fun r => r != .blanks)).all (fun r => r != .anyChar) &&
  rules.contains .blanks && rules.contains .newlines && rules.contains .lineComment && rules.contains .commentOpen &&
  rules.contains .cont

theorem wf_mem {rules : List Rule} (h : RulesWF rules = true) :
    Rule.blanks ∈ rules ∧ Rule.newlines ∈ rules ∧ Rule.lineComment ∈ rules ∧ Rule.commentOpen ∈ rules ∧ Rule.cont ∈ rules := by
  simp only [RulesWF, Bool.and_eq_true, List.contains_iff_mem] at h
  exact ⟨h.1.1.1.1.2, h.1.1.1.2, h.1.1.2, h.1.2, h.2⟩

theorem wf_blanks_first {rules : List Rule} (h : RulesWF rules = true) :
    ∀ r ∈ rules.takeWhile (fun r => r != .blanks), r ≠ .anyChar := by
  simp only [RulesWF, Bool.and_eq_true, List.all_eq_true, bne_iff_ne] at h
  exact h.1.1.1.1.1.2

theorem wf_lit {rules : List Rule} (h : RulesWF rules = true) {r : Rule} (hr : r ∈ rules) {l : List Ch} (hl : isLit r = some l) :
    (∃ c l', l = c :: l' ∧ isBlank c = false ∧ c ≠ 10 ∧ c ≠ 13) ∧ pre [47, 47] l = false ∧ pre [47, 42] l = false ∧
    (∀ c1 l', l = 92 :: c1 :: l' → isBlank c1 = false ∧ c1 ≠ 10) := by
  simp only [RulesWF, Bool.and_eq_true, List.all_eq_true] at h
  have := h.1.1.1.1.1.1 r hr
  rw [hl] at this
  simp only [Bool.and_eq_true, Bool.not_eq_true'] at this
  obtain ⟨⟨⟨h1, h2⟩, h3⟩, h4⟩ := this
  refine ⟨?_, h2, h3, ?_⟩
  · cases l with
    | nil => simp at h1
    | cons c l' => simp at h1; exact ⟨c, l', rfl, h1.1.1, h1.1.2, h1.2⟩
  · intro c1 l' e
    subst e
    simpa using h4

theorem wf_lit_head {rules : List Rule} (h : RulesWF rules = true) {r : Rule} (hr : r ∈ rules) {l : List Ch} (hl : isLit r = some l)
    (c : Ch) (hc : isBlank c = true ∨ c = 10 ∨ c = 13) : headOK r c = false := by
  obtain ⟨⟨c', l', rfl, h1, h2, h3⟩, -⟩ := wf_lit h hr hl
  rw [headOK_lit hl, List.head?_cons, beq_eq_false_iff_ne]
  rintro ⟨rfl⟩
  rcases hc with hc | hc | hc
  · rw [hc] at h1; cases h1
  · exact h2 hc
  · exact h3 hc

/-- `a b` is `//`, `/*`, or a backslash followed by a blank or a newline -/
theorem wf_lit_two {rules : List Rule} (h : RulesWF rules = true) {r : Rule} (hr : r ∈ rules) {l : List Ch} (hl : isLit r = some l)
    (a b : Ch) (s : List Ch) (hab : a = 47 ∧ (b = 47 ∨ b = 42) ∨ a = 92 ∧ (isBlank b = true ∨ b = 10)) :
    matchLen r (a :: b :: s) ≤ 1 := by
  obtain ⟨-, h1, h2, h3⟩ := wf_lit h hr hl
  rw [matchLen_lit hl]
  split
  · rename_i hp
    match l with
    | [] => exact Nat.zero_le _
    | [x] => exact Nat.le_refl _
    | x :: y :: l =>
      simp only [pre, Bool.and_eq_true, beq_iff_eq] at hp
      obtain ⟨rfl, rfl, -⟩ := hp
      rcases hab with ⟨rfl, rfl | rfl⟩ | ⟨rfl, hb⟩
      · simp [pre] at h1
      · simp [pre] at h2
      · have := h3 _ _ rfl
        rcases hb with hb | rfl
        · rw [hb] at this; cases this.1
        · exact absurd rfl this.2
  · exact Nat.zero_le _

theorem matchLen_anyChar_le (s : List Ch) : matchLen .anyChar s ≤ 1 := by
  simp only [matchLen]
  split
  · split <;> omega
  · omega

theorem best_blanks (rules : List Rule) (h : RulesWF rules = true) (c : Ch) (b rest : List Ch) (hc : isBlank c = true)
    (hb : b.all isBlank = true) (hrest : headNot rest isBlank = true) :
    best rules (c :: b ++ rest) = some (.blanks, (c :: b).length) := by
  have hm : matchLen .blanks (c :: b ++ rest) = (c :: b).length := by
    rw [matchLen, spanLen_append_of_headNot hrest, spanLen_all]
    simp [hc, hb]
  have hcls : ∀ r ∈ rules, r = .blanks ∨ r = .anyChar ∨ matchLen r (c :: b ++ rest) = 0 := by
    intro r hr
    refine (Decidable.em (r = .blanks)).imp_right fun n1 => (Decidable.em (r = .anyChar)).imp_right fun n2 => ?_
    apply matchLen_zero_of_head
    have hc' : c = 32 ∨ c = 9 := by simpa [isBlank] using hc
    cases r with
    | lit l t | litOld l t => exact wf_lit_head h hr rfl c (.inl hc)
    | blanks => exact absurd rfl n1
    | anyChar => exact absurd rfl n2
    | _ => rcases hc' with rfl | rfl <;> rfl
  -- `.` matches a single blank just as long, so the order of the table decides (`wf_blanks_first`)
  refine best_eq rules .blanks (wf_mem h).1 hm (by simp) (fun r hr => ?_) (fun r hr => ?_)
  · rcases hcls r hr with rfl | rfl | e
    · exact Nat.le_of_eq hm
    · exact Nat.le_trans (matchLen_anyChar_le _) (by simp)
    · rw [e]; exact Nat.zero_le _
  · rcases hcls r (mem_takeWhile hr).1 with rfl | rfl | e
    · simpa using (mem_takeWhile hr).2
    · exact absurd rfl (wf_blanks_first h _ hr)
    · rw [e]; simp

theorem best_newlines (rules : List Rule) (h : RulesWF rules = true) (nl rest : List Ch)
    (hb : nl.all (fun c => c == 10) = true) (hrest : headNot rest (fun c => c == 10) = true) :
    best rules (10 :: nl ++ rest) = some (.newlines, (10 :: nl).length) := by
  refine best_by_head rules .newlines 10 (s := nl ++ rest) (wf_mem h).2.1 ?_ (Nat.succ_pos _) fun r hr hh ne => ?_
  · rw [matchLen, ← List.cons_append, spanLen_append_of_headNot hrest, spanLen_all]
    simpa using hb
  · cases r with
    | lit l t | litOld l t => rw [wf_lit_head h hr rfl 10 (.inr (.inl rfl))] at hh; cases hh
    | newlines => exact absurd rfl ne
    | _ => cases hh

theorem best_lineComment (rules : List Rule) (h : RulesWF rules = true) (body rest : List Ch)
    (hb : body.all (fun c => c != 10) = true) (hrest : headNot rest (fun c => c != 10) = true) :
    best rules (47 :: 47 :: body ++ rest) = some (.lineComment, (47 :: 47 :: body).length) := by
  refine best_by_head rules .lineComment 47 (wf_mem h).2.2.1 ?_ (Nat.succ_pos _) fun r hr hh ne => ?_
  · simp [matchLen, pre, spanLen_append_of_headNot hrest, spanLen_all hb]
  · have h2 : 1 < (47 :: 47 :: body).length := by simp
    cases r with
    | lit l t | litOld l t => exact Nat.lt_of_le_of_lt (wf_lit_two h hr rfl 47 47 _ (.inl ⟨rfl, .inl rfl⟩)) h2
    | lineComment => exact absurd rfl ne
    | commentOpen => simp [matchLen, pre]
    | anyChar => exact Nat.lt_of_le_of_lt (matchLen_anyChar_le _) h2
    | _ => cases hh

theorem best_commentOpen (rules : List Rule) (h : RulesWF rules = true) (rest : List Ch) :
    best rules (47 :: 42 :: rest) = some (.commentOpen, 2) := by
  refine best_by_head rules .commentOpen 47 (wf_mem h).2.2.2.1 ?_ (Nat.succ_pos _) fun r hr hh ne => ?_
  · simp [matchLen, pre]
  · cases r with
    | lit l t | litOld l t => exact Nat.lt_succ_of_le (wf_lit_two h hr rfl 47 42 _ (.inl ⟨rfl, .inr rfl⟩))
    | commentOpen => exact absurd rfl ne
    | lineComment => simp [matchLen, pre]
    | anyChar => exact Nat.lt_succ_of_le (matchLen_anyChar_le _)
    | _ => cases hh

theorem best_cont (rules : List Rule) (h : RulesWF rules = true) (b rest : List Ch) (hb : b.all isBlank = true) :
    best rules (92 :: (b ++ [10]) ++ rest) = some (.cont, (92 :: (b ++ [10])).length) := by
  have hsp : spanLen isBlank (b ++ 10 :: rest) = b.length := by
    rw [spanLen_append (by simp [stopsIn, isBlank]), spanLen_all hb]
  refine best_by_head rules .cont 92 (wf_mem h).2.2.2.2 ?_ (Nat.succ_pos _) fun r hr hh ne => ?_
  · simp [matchLen, hsp, pre]
  · have h2 : 1 < (92 :: (b ++ [10])).length := by simp
    cases r with
    | lit l t | litOld l t =>
      refine Nat.lt_of_le_of_lt ?_ h2
      cases b with
      | nil => exact wf_lit_two h hr rfl 92 10 _ (.inr ⟨rfl, .inr rfl⟩)
      | cons b0 b => exact wf_lit_two h hr rfl 92 b0 _ (.inr ⟨rfl, .inl (by simp at hb; exact hb.1)⟩)
    | cont => exact absurd rfl ne
    | anyChar => exact Nat.lt_of_le_of_lt (matchLen_anyChar_le _) h2
    | _ => cases hh

theorem lexFrom_comment (cfg : Cfg) (after : List Ch) (n : Nat) : ∀ body : List Ch, bodyOK body = true →
    lexFrom cfg true n (body ++ 42 :: 47 :: after) = lexFrom cfg false n after
  | [], _ => lexFrom_close cfg n after
  | c :: b, hok => by
    simp only [bodyOK, Bool.and_eq_true, Bool.not_eq_true'] at hok
    obtain ⟨⟨he, hs⟩, hb⟩ := hok
    -- `EXPECT:` contains no `*`, so it cannot begin inside the body and reach into the closing `*/`
    have hx : pre (c :: b ++ [42]) expectLit = false := by
      refine Bool.eq_false_iff.mpr fun hx => ?_
      have := (pre_iff.mp hx).subset (List.mem_append_right _ (List.mem_singleton_self 42))
      simp [expectLit] at this
    have h1 : pre expectLit (c :: b ++ 42 :: 47 :: after) = false := by rw [pre_local _ hx, he]
    have h2 := (pre2_local (rest := 42 :: 47 :: after) hs).1
    have hc : commentStep cfg.expectStops (c :: (b ++ 42 :: 47 :: after)) = .skip := by
      rw [List.cons_append] at h1 h2
      simp [commentStep, expectAt, h1, h2]
    rw [List.cons_append, lexFrom_skip cfg n c _ hc, lexFrom_comment cfg after n b hb]

def NonProperty (cfg : Cfg) : Prop := (cfg.mask &&& cfg.bitProperty != 0) = false

def isNewlines : Triv → Bool
  | .newlines _ => true
  | _ => false

/-- no separator of the text contains a newline item -/
def noNewlines (sep0 : List Triv) (items : List Item) : Bool :=
  sep0.all (fun t => !isNewlines t) && items.all (fun it => it.sep.all (fun t => !isNewlines t))

/-- `hnp`: under PROPERTY syntax (a query) a run of newlines is a token, not trivia -/
theorem lexFrom_triv (cfg : Cfg) (hwf : RulesWF cfg.rules = true) (t : Triv) (hnp : NonProperty cfg ∨ isNewlines t = false)
    (after : List Ch) (n : Nat) (hok : t.ok after = true) :
    lexFrom cfg false n (t.text ++ after) = lexFrom cfg false n after := by
  cases t with
  | blanks c b =>
    simp only [Triv.ok, Bool.and_eq_true] at hok
    exact lexFrom_step_nil cfg (c :: b) after .blanks n (best_blanks _ hwf c b after hok.1.1 hok.1.2 hok.2) rfl
  | newlines nl =>
    simp only [Triv.ok, Bool.and_eq_true] at hok
    have hnp : (cfg.mask &&& cfg.bitProperty != 0) = false := hnp.resolve_right (by simp [isNewlines])
    exact lexFrom_step_nil cfg (10 :: nl) after .newlines n (best_newlines _ hwf nl after hok.1 hok.2)
      (by simp only [action, hnp, Bool.false_eq_true, if_false])
  | line body =>
    simp only [Triv.ok, Bool.and_eq_true] at hok
    exact lexFrom_step_nil cfg (47 :: 47 :: body) after .lineComment n (best_lineComment _ hwf body after hok.1 hok.2) rfl
  | cont b => exact lexFrom_step_nil cfg (92 :: (b ++ [10])) after .cont n (best_cont _ hwf b after hok) rfl
  | block body =>
    have e : (Triv.block body).text ++ after = [47, 42] ++ (body ++ 42 :: 47 :: after) := by simp [Triv.text]
    rw [e, lexFrom_step cfg [47, 42] (body ++ 42 :: 47 :: after) .commentOpen n (best_commentOpen _ hwf _)]
    exact lexFrom_comment cfg after n body hok

theorem lexFrom_sep (cfg : Cfg) (hwf : RulesWF cfg.rules = true) (after : List Ch) (n : Nat) :
    ∀ ts : List Triv, NonProperty cfg ∨ ts.all (fun t => !isNewlines t) = true → sepOK ts after = true →
      lexFrom cfg false n (sepText ts ++ after) = lexFrom cfg false n after
  | [], _, _ => rfl
  | t :: ts, hnp, hok => by
    simp only [sepOK, Bool.and_eq_true] at hok
    simp only [List.all_cons, Bool.and_eq_true, Bool.not_eq_true'] at hnp
    rw [sepText, List.append_assoc, lexFrom_triv cfg hwf t (hnp.imp_right (·.1)) _ n hok.1,
      lexFrom_sep cfg hwf after n ts (hnp.imp_right (·.2)) hok.2]

theorem action_snd (cfg : Cfg) (n : Nat) (r : Rule) (w : List Ch) (h : r ≠ .commentOpen) : (action cfg n r w).2 = false := by
  cases r with
  | commentOpen => exact absurd rfl h
  | ident => simp only [action]; split <;> rfl
  | _ => rfl

theorem lex_render (cfg : Cfg) (hwf : RulesWF cfg.rules = true) :
    ∀ (items : List Item) (n : Nat), NonProperty cfg ∨ items.all (fun it => it.sep.all (fun t => !isNewlines t)) = true →
      Renderable cfg items = true → lexFrom cfg false n (renderItems items) = tokensOf cfg n items
  | [], _, _, _ => rfl
  | it :: rest, n, hnp, hr => by
    simp only [Renderable, Bool.and_eq_true, beq_iff_eq, bne_iff_ne, ne_eq] at hr
    obtain ⟨⟨⟨⟨hb, hne⟩, hcl⟩, hsep⟩, hrest⟩ := hr
    simp only [List.all_cons, Bool.and_eq_true] at hnp
    have hb' := (best_congr (matchLen_local hcl)).trans hb
    rw [renderItems, tokensOf, lexFrom_step cfg _ _ it.r n hb', action_snd cfg n it.r it.w hne,
      lexFrom_sep cfg hwf _ _ it.sep (hnp.imp_right (·.1)) hsep, lex_render cfg hwf rest _ (hnp.imp_right (·.2)) hrest]

theorem headOK_alpha {r : Rule} {c : Nat} (ha : isAlpha c = true) (h : headOK r c = true) :
    r = .ident ∨ r = .anyChar ∨ ∃ l, isLit r = some l := by
  -- a letter is none of the first characters of the other rules: `\` `/` blank newline CR `"` digit
  have hc : c ≠ 92 ∧ c ≠ 47 ∧ c ≠ 32 ∧ c ≠ 9 ∧ c ≠ 10 ∧ c ≠ 13 ∧ c ≠ 34 ∧ ¬(48 ≤ c ∧ c ≤ 57) := by
    -- `Ch` unfolded: `omega` wants `Nat`
    simp only [isAlpha, Bool.or_eq_true, Bool.and_eq_true, decide_eq_true_eq, beq_iff_eq, Ch] at ha
    omega
  cases r with
  | ident => exact .inl rfl
  | anyChar => exact .inr (.inl rfl)
  | lit l t | litOld l t => exact .inr (.inr ⟨l, rfl⟩)
  | _ => simp [headOK, isBlank, isDigit, hc] at h

theorem matchLen_le_of_alpha (r : Rule) (c : Ch) (cs : List Ch) (ha : isAlpha c = true) :
    matchLen r (c :: cs) ≤ (c :: cs).length := by
  cases hh : headOK r c with
  | false => rw [matchLen_zero_of_head r c cs hh]; exact Nat.zero_le _
  | true =>
    rcases headOK_alpha ha hh with rfl | rfl | ⟨l, hl⟩
    · have := spanLen_le isIdChr cs
      simp only [matchLen, ha, if_true, List.length_cons]
      omega
    · exact Nat.le_trans (matchLen_anyChar_le _) (by simp)
    · rw [matchLen_lit hl]
      split
      · exact (pre_iff.mp ‹_›).length_le
      · exact Nat.zero_le _

/-- `w` has the shape `{alpha}{idchr}*` -/
def identShaped (w : List Ch) : Bool :=
  match w with
  | [] => false
  | c :: cs => isAlpha c && cs.all isIdChr

/-- the rules listed before the identifier rule cannot match an identifier-shaped text completely unless they are a
    literal with exactly that text; `.` is listed after the identifier rule -/
def IdentWF (rules : List Rule) : Bool :=
  rules.contains .ident &&
  (rules.takeWhile (fun r => r != .ident)).all (fun r => match r with
    | .lit _ _ | .litOld _ _ | .cont | .lineComment | .blanks | .commentOpen | .newlines | .crlf => true
    | _ => false)

def litTexts (rules : List Rule) : List (List Ch) := rules.filterMap isLit

theorem best_ident (rules : List Rule) (hwf : IdentWF rules = true) (w : List Ch) (hid : identShaped w = true)
    (hlit : w ∉ litTexts rules) : best rules w = some (.ident, w.length) := by
  cases w with
  | nil => simp [identShaped] at hid
  | cons c cs =>
    simp only [IdentWF, Bool.and_eq_true, List.all_eq_true, List.contains_iff_mem] at hwf
    simp only [identShaped, Bool.and_eq_true] at hid
    have hm : matchLen .ident (c :: cs) = (c :: cs).length := by
      simp only [matchLen, hid.1, if_true, List.length_cons, spanLen_all hid.2]
    refine best_eq rules .ident hwf.1 hm (Nat.succ_pos _) (fun r _ => matchLen_le_of_alpha r c cs hid.1) fun r hr e => ?_
    -- a rule listed before the identifier rule that matches all of `w` is a literal with text `w`
    have hk := hwf.2 r hr
    cases hh : headOK r c with
    | false => rw [matchLen_zero_of_head r c cs hh] at e; cases e
    | true =>
      rcases headOK_alpha hid.1 hh with rfl | rfl | ⟨l, hl⟩
      · cases hk
      · cases hk
      · rw [matchLen_lit hl] at e
        split at e
        · exact hlit (List.mem_filterMap.mpr ⟨r, (mem_takeWhile hr).1, by rw [hl, (pre_iff.mp ‹_›).eq_of_length e]⟩)
        · cases e

theorem action_ident (cfg : Cfg) (n : Nat) (w : List Ch) (hk : kwTok cfg w = none) (hlen : w.length < cfg.maxLen) :
    action cfg n .ident w = ([if cfg.isType n w then .typename w else .id w], false) := by
  simp only [action, hk]
  have h1 : ¬ (w.length ≥ cfg.maxLen) := by omega
  have h2 : w.take (cfg.maxLen - 1) = w := List.take_of_length_le (by omega)
  simp [h1, h2]

theorem kwTok_isType (cfg : Cfg) (isType' : Nat → List Ch → Bool) (w : List Ch) :
    kwTok { cfg with isType := isType' } w = kwTok cfg w := rfl

/-- no action but the identifier rule's on a non-keyword returns a name, and only the soft literals' consult `is_type`
    besides (whence `hsoft`) -/
theorem action_other (cfg : Cfg) (isType' : Nat → List Ch → Bool) (ρ : List Ch → List Ch) (n : Nat) (r : Rule) (w : List Ch)
    (hsoft : ∀ n w, w ∈ cfg.softLits → cfg.isType n w = false ∧ isType' n w = false)
    (h : r = .ident → kwTok cfg w ≠ none) :
    (action { cfg with isType := isType' } n r w).1 = (action cfg n r w).1.map (renTok ρ) := by
  cases r with
  | ident =>
    cases hk : kwTok cfg w with
    | none => exact absurd hk (h rfl)
    | some t => simp [action, kwTok_isType, hk, renTok]
  | lit l t =>
    by_cases hc : w ∈ cfg.softLits
    · simp [action, hsoft n w hc, renTok]
    · simp [action, hc, renTok]
  | litOld l t | newlines | crlf => simp only [action]; split <;> rfl
  | num =>
    simp only [action, numTok]
    split
    · rfl
    · split
      · rfl
      · split <;> rfl
  | _ => rfl

theorem action_renItem (cfg : Cfg) (isType' : Nat → List Ch → Bool) (ρ : List Ch → List Ch)
    (htype : ∀ n w, isType' n (ρ w) = cfg.isType n w)
    (hsoft : ∀ n w, w ∈ cfg.softLits → cfg.isType n w = false ∧ isType' n w = false) (n : Nat) (it it' : Item)
    (hit : it' = if isUserId cfg it then { it with w := ρ it.w } else it)
    (h : isUserId cfg it = true → kwTok cfg (ρ it.w) = none ∧ (ρ it.w).length < cfg.maxLen ∧ it.w.length < cfg.maxLen) :
    (action { cfg with isType := isType' } n it'.r it'.w).1 = (action cfg n it.r it.w).1.map (renTok ρ) := by
  subst hit
  cases hu : isUserId cfg it with
  | true =>
    obtain ⟨hk', hl', hl⟩ := h hu
    simp only [isUserId, Bool.and_eq_true, beq_iff_eq, Option.isNone_iff_eq_none] at hu
    simp only [if_true, hu.1, action_ident cfg n it.w hu.2 hl, action_ident { cfg with isType := isType' } n (ρ it.w) hk' hl', htype]
    cases cfg.isType n it.w <;> rfl
  | false =>
    refine action_other cfg isType' ρ n it.r it.w hsoft ?_
    simpa [isUserId, Option.isSome_iff_ne_none] using hu

theorem tokensOf_rename (cfg : Cfg) (isType' : Nat → List Ch → Bool) (ρ : List Ch → List Ch)
    (htype : ∀ n w, isType' n (ρ w) = cfg.isType n w)
    (hsoft : ∀ n w, w ∈ cfg.softLits → cfg.isType n w = false ∧ isType' n w = false) :
    ∀ (items : List Item) (n : Nat),
      (∀ it ∈ items, isUserId cfg it = true →
          kwTok cfg (ρ it.w) = none ∧ (ρ it.w).length < cfg.maxLen ∧ it.w.length < cfg.maxLen) →
      tokensOf { cfg with isType := isType' } n (renItems cfg ρ items) = (tokensOf cfg n items).map (renTok ρ)
  | [], _, _ => rfl
  | it :: rest, n, h => by
    simp only [renItems, List.map_cons, tokensOf, List.map_append]
    rw [action_renItem cfg isType' ρ htype hsoft n it _ rfl (h it List.mem_cons_self), List.length_map]
    exact congrArg _ (tokensOf_rename cfg isType' ρ htype hsoft rest _ fun it' hit' => h it' (List.mem_cons_of_mem _ hit'))

theorem tokensOf_congr (cfg : Cfg) : ∀ (items items' : List Item) (n : Nat),
    items.map (fun i => (i.w, i.r)) = items'.map (fun i => (i.w, i.r)) → tokensOf cfg n items = tokensOf cfg n items'
  | [], [], _, _ => rfl
  | it :: rest, it' :: rest', n, h => by
    simp only [List.map_cons, List.cons.injEq, Prod.mk.injEq] at h
    simp only [tokensOf, h.1.1, h.1.2, tokensOf_congr cfg rest rest' _ h.2]

theorem lex_text (cfg : Cfg) (hwf : RulesWF cfg.rules = true) (sep0 : List Triv) (items : List Item)
    (hnl : NonProperty cfg ∨ noNewlines sep0 items = true)
    (h0 : sepOK sep0 (renderItems items) = true) (h : Renderable cfg items = true) :
    lex cfg (sepText sep0 ++ renderItems items) = tokensOf cfg 0 items := by
  simp only [noNewlines, Bool.and_eq_true] at hnl
  exact (lexFrom_sep cfg hwf _ 0 sep0 (hnl.imp_right (·.1)) h0).trans (lex_render cfg hwf items 0 (hnl.imp_right (·.2)) h)

theorem lex_trivia (cfg : Cfg) (hwf : RulesWF cfg.rules = true) (sep0 sep0' : List Triv) (items items' : List Item)
    (hsame : items.map (fun i => (i.w, i.r)) = items'.map (fun i => (i.w, i.r)))
    (hnl : NonProperty cfg ∨ noNewlines sep0 items = true ∧ noNewlines sep0' items' = true)
    (h0 : sepOK sep0 (renderItems items) = true) (h : Renderable cfg items = true)
    (h0' : sepOK sep0' (renderItems items') = true) (h' : Renderable cfg items' = true) :
    lex cfg (sepText sep0 ++ renderItems items) = lex cfg (sepText sep0' ++ renderItems items') := by
  rw [lex_text cfg hwf sep0 items (hnl.imp_right (·.1)) h0 h, lex_text cfg hwf sep0' items' (hnl.imp_right (·.2)) h0' h',
    tokensOf_congr cfg items items' 0 hsame]

theorem noNewlines_renItems (cfg : Cfg) (ρ : List Ch → List Ch) (sep0 : List Triv) (items : List Item) :
    noNewlines sep0 (renItems cfg ρ items) = noNewlines sep0 items := by
  simp only [noNewlines, renItems, List.all_map]
  congr 2
  funext it
  simp only [Function.comp]
  split <;> rfl

theorem lex_rename (cfg : Cfg) (hwf : RulesWF cfg.rules = true)
    (isType' : Nat → List Ch → Bool) (ρ : List Ch → List Ch) (sep0 : List Triv) (items : List Item)
    (htype : ∀ n w, isType' n (ρ w) = cfg.isType n w)
    (hsoft : ∀ n w, w ∈ cfg.softLits → cfg.isType n w = false ∧ isType' n w = false)
    (hρ : ∀ it ∈ items, isUserId cfg it = true →
        kwTok cfg (ρ it.w) = none ∧ (ρ it.w).length < cfg.maxLen ∧ it.w.length < cfg.maxLen)
    (hnl : NonProperty cfg ∨ noNewlines sep0 items = true)
    (h0 : sepOK sep0 (renderItems items) = true) (h : Renderable cfg items = true)
    (h0' : sepOK sep0 (renderItems (renItems cfg ρ items)) = true)
    (h' : Renderable { cfg with isType := isType' } (renItems cfg ρ items) = true) :
    lex { cfg with isType := isType' } (sepText sep0 ++ renderItems (renItems cfg ρ items)) =
      (lex cfg (sepText sep0 ++ renderItems items)).map (renTok ρ) := by
  rw [lex_text cfg hwf sep0 items hnl h0 h,
    lex_text { cfg with isType := isType' } hwf sep0 _ (hnl.imp_right (noNewlines_renItems cfg ρ sep0 items ▸ ·)) h0' h',
    tokensOf_rename cfg isType' ρ htype hsoft items 0 hρ]

theorem maxMatch_filter (rules : List Rule) (c : Ch) (s : List Ch) :
    maxMatch (rules.filter (fun r => headOK r c)) (c :: s) = maxMatch rules (c :: s) := by
  induction rules with
  | nil => rfl
  | cons r rs ih =>
    simp only [maxMatch, List.foldr_cons] at ih ⊢
    rw [List.filter_cons, ← ih]
    cases hh : headOK r c with
    | true => rfl
    | false => rw [matchLen_zero_of_head r c s hh, Nat.zero_max]; rfl

theorem best_filter (rules : List Rule) (c : Ch) (s : List Ch) :
    best (rules.filter (fun r => headOK r c)) (c :: s) = best rules (c :: s) := by
  simp only [best, maxMatch_filter]
  split
  · rfl
  · rename_i hm
    rw [← List.head?_filter, ← List.head?_filter, List.filter_filter]
    congr 2
    refine List.filter_congr fun r _ => ?_
    cases hh : headOK r c with
    | true => exact Bool.and_true _
    | false => rw [matchLen_zero_of_head r c s hh, Bool.and_false]; exact (beq_eq_false_iff_ne.mpr (Ne.symm hm)).symm

/-- `lexGo` with the rule chosen by `B` -/
def lexGoBy (B : List Ch → Option (Rule × Nat)) (cfg : Cfg) : Nat → Bool → Nat → List Ch → List Tok
  | 0, _, _, _ => []
  | fuel + 1, true, n, s =>
    match commentStep cfg.expectStops s with
    | .eof => [.commentNotClosed]
    | .close => lexGoBy B cfg fuel false n (s.drop 2)
    | .expect k => .expect ((s.take k).drop 7) :: lexGoBy B cfg fuel true (n + 1) (s.drop k)
    | .skip => lexGoBy B cfg fuel true n (s.drop 1)
  | fuel + 1, false, n, s =>
    match s with
    | [] => []
    | _ :: _ =>
      match B s with
      | none => []
      | some (r, len) =>
        let res := action cfg n r (s.take len)
        res.1 ++ lexGoBy B cfg fuel res.2 (n + res.1.length) (s.drop len)

theorem lexGoBy_eq (B : List Ch → Option (Rule × Nat)) (cfg : Cfg) (hB : ∀ c s, B (c :: s) = best cfg.rules (c :: s)) :
    ∀ (f : Nat) (b : Bool) (n : Nat) (s : List Ch), lexGoBy B cfg f b n s = lexGo cfg f b n s
  | 0, _, _, _ => rfl
  | f + 1, true, n, s => by
    simp only [lexGoBy, lexGo, lexGoBy_eq B cfg hB f]
    rfl
  | f + 1, false, n, [] => rfl
  | f + 1, false, n, c :: s => by
    simp only [lexGoBy, lexGo, hB, lexGoBy_eq B cfg hB f]
    rfl

/-- Matching on `s` hands the kernel the character itself, so positions that start alike share one filtering of the
    table. -/
def bestOn (rules : List Rule) (s : List Ch) : Option (Rule × Nat) :=
  best (match s with | [] => rules | c :: _ => rules.filter (fun r => headOK r c)) s

theorem best_eq_bestOn (rules : List Rule) (s : List Ch) : best rules s = bestOn rules s := by
  cases s with
  | nil => rfl
  | cons c s => exact (best_filter rules c s).symm

/-- what the concrete witnesses are evaluated with: `maxMatch` over the few rules of a character's class, not over the
    whole table -/
def lexOn (cfg : Cfg) (s : List Ch) : List Tok := lexGoBy (bestOn cfg.rules) cfg (s.length + 1) false 0 s

theorem lex_eq_lexOn (cfg : Cfg) (s : List Ch) : lex cfg s = lexOn cfg s :=
  (lexGoBy_eq _ cfg (fun c s => (best_eq_bestOn cfg.rules (c :: s)).symm) _ false 0 s).symm

end UtapModel.C09
