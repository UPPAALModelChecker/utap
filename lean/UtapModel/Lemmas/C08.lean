/- The invariant `InvH` under each elementary operation on the symbol heap and the document; `Builds.inv`. -/
import UtapModel.Lemmas.C08Build

namespace UtapModel.Builder

theorem InstOk.mono {syms : List Symbol} {new : List Symbol} {I : Inst} (h : InstOk syms I) : InstOk (syms ++ new) I := by
  refine ⟨h.unboundLe, h.mapDom, h.mapKeys, ?_⟩
  intro hk
  obtain ⟨sym, hs, ht⟩ := h.arity hk
  exact ⟨sym, getElem?_append_of_some hs, ht⟩

/-- one new symbol, and a document that keeps every old object -/
theorem InvH.extend {syms : List Symbol} {doc doc' : Doc} {new : Symbol} (h : InvH syms doc)
    (huid : ∀ r sid, doc'.uidOf r = some sid → doc.uidOf r = some sid ∨ (sid = syms.length ∧ new.user = some r))
    (hmono : ∀ r sid, doc.uidOf r = some sid → doc'.uidOf r = some sid)
    (hinstmono : ∀ r I, doc.inst? r = some I → doc'.inst? r = some I)
    (hinst : ∀ r I, doc'.inst? r = some I → doc.inst? r = some I ∨ InstOk (syms ++ [new]) I)
    (hnewLoc : new.ty.isLocation → ∃ i, new.user = some (.loc i) ∧ doc'.uidOf (.loc i) = some syms.length)
    (hnewBp : new.ty.isBranchpoint → ∃ i, new.user = some (.bp i) ∧ doc'.uidOf (.bp i) = some syms.length)
    (hnewInst : ∀ a, (new.ty = .inst a ∨ new.ty = .lscInst a) →
      ∃ r I, new.user = some r ∧ doc'.inst? r = some I ∧ I.uid = syms.length ∧ I.unbound = a)
    (hnumLoc : ∀ (i : Nat) (l : Loc), doc'.locs[i]? = some l → l.nr = ((doc'.locs.take i).filter (·.templ = l.templ)).length)
    (hnumBp : ∀ (i : Nat) (b : Bp), doc'.bps[i]? = some b → b.nr = ((doc'.bps.take i).filter (·.templ = b.templ)).length)
    (hnumEdge : ∀ (t : Nat) (T : Templ) (i : Nat) (e : Edge), doc'.templates[t]? = some T → T.edges[i]? = some e → e.nr = i)
    (hedges : ∀ (t : Nat) (T : Templ) (i : Nat) (e : Edge), doc'.templates[t]? = some T → T.edges[i]? = some e → EdgeOk e) :
    InvH (syms ++ [new]) doc' := by
  refine ⟨?_, ?_, ?_, ?_, hnumLoc, hnumBp, hnumEdge, hedges, ?_⟩
  · intro r sid hr
    rcases huid r sid hr with ho | ⟨hs, hu⟩
    · exact symUser_append (h.own r sid ho)
    · exact hs ▸ (symUser_eq List.getElem?_concat_length).trans hu
  · intro sid sym hs hl
    rcases append_one_split hs with ⟨_, ho⟩ | ⟨hs', hn⟩
    · obtain ⟨i, hu, hd⟩ := h.backLoc sid sym ho hl
      exact ⟨i, hu, hmono _ _ hd⟩
    · subst hn; subst hs'; exact hnewLoc hl
  · intro sid sym hs hl
    rcases append_one_split hs with ⟨_, ho⟩ | ⟨hs', hn⟩
    · obtain ⟨i, hu, hd⟩ := h.backBp sid sym ho hl
      exact ⟨i, hu, hmono _ _ hd⟩
    · subst hn; subst hs'; exact hnewBp hl
  · intro sid sym a hs hl
    rcases append_one_split hs with ⟨_, ho⟩ | ⟨hs', hn⟩
    · obtain ⟨r, I, hu, hi, h1, h2⟩ := h.backInst sid sym a ho hl
      exact ⟨r, I, hu, hinstmono _ _ hi, h1, h2⟩
    · subst hn; subst hs'; exact hnewInst a hl
  · intro r I hi
    rcases hinst r I hi with ho | hn
    · exact (h.insts r I ho).mono
    · exact hn

theorem num_append {α} (tag : α → Nat) (nr : α → Nat) (l : List α) (x : α)
    (h : ∀ i a, l[i]? = some a → nr a = ((l.take i).filter (fun b => tag b = tag a)).length)
    (hx : nr x = (l.filter (fun b => tag b = tag x)).length) :
    ∀ i a, (l ++ [x])[i]? = some a → nr a = (((l ++ [x]).take i).filter (fun b => tag b = tag a)).length := by
  intro i a hi
  rcases append_one_split hi with ⟨hlt, ho⟩ | ⟨he, hx'⟩
  · rw [List.take_append_of_le_length (Nat.le_of_lt hlt)]; exact h i a ho
  · subst he; subst hx'
    rw [List.take_append_of_le_length (Nat.le_refl _), List.take_length]; exact hx

theorem InvH.addPlain {syms : List Symbol} {doc : Doc} (h : InvH syms doc) (new : Symbol) (hp : new.ty.plain) :
    InvH (syms ++ [new]) doc := by
  refine h.extend (fun r sid hr => Or.inl hr) (fun _ _ hr => hr) (fun _ _ hr => hr) (fun _ _ hr => Or.inl hr) ?_ ?_ ?_
    h.numLoc h.numBp h.numEdge h.edges
  · intro hl; rw [hp.1] at hl; cases hl
  · intro hl; rw [hp.2.1] at hl; cases hl
  · intro a ha
    exact ha.elim (fun e => absurd e (hp.2.2 a).1) (fun e => absurd e (hp.2.2 a).2)

/-! A variable, function, location or branchpoint: one list of the document grows by one object, which the new symbol names.
    For a reference of another kind both `uidOf` and `inst?` reduce to what they were. -/

theorem InvH.addVar {syms : List Symbol} {doc : Doc} (h : InvH syms doc) (name : String) (ty : Ty) (owner : VOwner) :
    InvH (syms ++ [⟨name, .var ty, some (.var doc.vars.length)⟩]) { doc with vars := doc.vars ++ [⟨syms.length, owner⟩] } := by
  refine h.extend ?_ ?_ (fun _ _ hr => hr) (fun _ _ hr => .inl hr)
    nofun nofun nofun h.numLoc h.numBp h.numEdge h.edges
  · intro r sid hr
    cases r with
    | var i => exact (map_append_split hr).imp_right fun ⟨he, hx⟩ => ⟨hx, he ▸ rfl⟩
    | _ => exact .inl hr
  · intro r sid hr
    cases r with
    | var i => exact map_append_mono hr
    | _ => exact hr

theorem InvH.addFunc {syms : List Symbol} {doc : Doc} (h : InvH syms doc) (name : String) (owner : DRef) :
    InvH (syms ++ [⟨name, .func, some (.func doc.funs.length)⟩]) { doc with funs := doc.funs ++ [⟨syms.length, owner⟩] } := by
  refine h.extend ?_ ?_ (fun _ _ hr => hr) (fun _ _ hr => .inl hr)
    nofun nofun nofun h.numLoc h.numBp h.numEdge h.edges
  · intro r sid hr
    cases r with
    | func i => exact (map_append_split hr).imp_right fun ⟨he, hx⟩ => ⟨hx, he ▸ rfl⟩
    | _ => exact .inl hr
  · intro r sid hr
    cases r with
    | func i => exact map_append_mono hr
    | _ => exact hr

theorem InvH.addLoc {syms : List Symbol} {doc : Doc} (h : InvH syms doc) (name : String) (t : Nat) (a b : Bool) :
    InvH (syms ++ [⟨name, .location false false, some (.loc doc.locs.length)⟩])
      { doc with locs := doc.locs ++ [⟨syms.length, t, (doc.locs.filter (·.templ = t)).length, a, b⟩] } := by
  refine h.extend ?_ ?_ (fun _ _ hr => hr) (fun _ _ hr => .inl hr)
    (fun _ => ⟨_, rfl, congrArg (Option.map _) List.getElem?_concat_length⟩) nofun nofun
    (num_append (·.templ) (·.nr) doc.locs _ h.numLoc rfl) h.numBp h.numEdge h.edges
  · intro r sid hr
    cases r with
    | loc i => exact (map_append_split hr).imp_right fun ⟨he, hx⟩ => ⟨hx, he ▸ rfl⟩
    | _ => exact .inl hr
  · intro r sid hr
    cases r with
    | loc i => exact map_append_mono hr
    | _ => exact hr

theorem InvH.addBp {syms : List Symbol} {doc : Doc} (h : InvH syms doc) (name : String) (t : Nat) :
    InvH (syms ++ [⟨name, .branchpoint, some (.bp doc.bps.length)⟩])
      { doc with bps := doc.bps ++ [⟨syms.length, t, (doc.bps.filter (·.templ = t)).length⟩] } := by
  refine h.extend ?_ ?_ (fun _ _ hr => hr) (fun _ _ hr => .inl hr)
    nofun (fun _ => ⟨_, rfl, congrArg (Option.map _) List.getElem?_concat_length⟩) nofun
    h.numLoc (num_append (·.templ) (·.nr) doc.bps _ h.numBp rfl) h.numEdge h.edges
  · intro r sid hr
    cases r with
    | bp i => exact (map_append_split hr).imp_right fun ⟨he, hx⟩ => ⟨hx, he ▸ rfl⟩
    | _ => exact .inl hr
  · intro r sid hr
    cases r with
    | bp i => exact map_append_mono hr
    | _ => exact hr

theorem InvH.addTempl {syms : List Symbol} {doc : Doc} (h : InvH syms doc) (name : String) (isTA dyn : Bool) (ps : List SymId) (fr : FrameId) :
    InvH (syms ++ [⟨name, if isTA then .inst ps.length else .lscInst ps.length, some (.templ doc.templates.length)⟩])
      { doc with templates := doc.templates ++ [mkTempl syms.length ps doc.templates.length fr isTA dyn] } := by
  refine h.extend ?_ ?_ ?_ ?_ ?_ ?_ ?_ h.numLoc h.numBp ?_ ?_
  · intro r sid hr
    cases r with
    | templ i => exact (map_append_split hr).imp_right fun ⟨he, hx⟩ => ⟨hx, he ▸ rfl⟩
    | _ => exact .inl hr
  · intro r sid hr
    cases r with
    | templ i => exact map_append_mono hr
    | _ => exact hr
  · intro r I hr
    cases r with
    | templ i => exact map_append_mono hr
    | _ => exact hr
  · intro r I hr
    cases r with
    | templ i =>
      refine (map_append_split hr).imp_right fun ⟨_, hx⟩ => ?_
      subst hx
      refine ⟨Nat.le_refl _, fun x => by simp [mkTempl, mkTemplInst], List.nodup_nil, fun _ => ?_⟩
      exact ⟨_, List.getElem?_concat_length, by cases isTA <;> simp [mkTempl, mkTemplInst]⟩
    | _ => exact .inl hr
  · intro hl; cases isTA <;> cases hl
  · intro hl; cases isTA <;> cases hl
  · intro a ha
    refine ⟨_, mkTemplInst syms.length ps doc.templates.length, rfl, congrArg (Option.map _) List.getElem?_concat_length, rfl, ?_⟩
    cases isTA <;> simp at ha <;> simp [ha, mkTemplInst]
  · intro t T i e hT he
    rcases append_one_split hT with ⟨_, ho⟩ | ⟨_, hx⟩
    · exact h.numEdge t T i e ho he
    · subst hx; cases he
  · intro t T i e hT he
    rcases append_one_split hT with ⟨_, ho⟩ | ⟨_, hx⟩
    · exact h.edges t T i e ho he
    · subst hx; cases he

theorem InvH.addInst {syms : List Symbol} {doc : Doc} (h : InvH syms doc) (new : Symbol) (I : Inst)
    (huser : new.user = some (.inst doc.insts.length)) (huid : I.uid = syms.length)
    (hok : InstOk (syms ++ [new]) I)
    (hl : new.ty.isLocation = false) (hb : new.ty.isBranchpoint = false)
    (hty : ∀ a, (new.ty = .inst a ∨ new.ty = .lscInst a) → I.unbound = a) :
    InvH (syms ++ [new]) { doc with insts := doc.insts ++ [I] } := by
  refine h.extend ?_ ?_ ?_ ?_ (by intro h'; rw [hl] at h'; cases h') (by intro h'; rw [hb] at h'; cases h') ?_
    h.numLoc h.numBp h.numEdge h.edges
  · intro r sid hr
    cases r with
    | inst i => exact (map_append_split hr).imp_right fun ⟨he, hx⟩ => ⟨hx.trans huid, he ▸ huser⟩
    | _ => exact .inl hr
  · intro r sid hr
    cases r with
    | inst i => exact map_append_mono hr
    | _ => exact hr
  · intro r J hr
    cases r with
    | inst i => exact getElem?_append_of_some hr
    | _ => exact hr
  · intro r J hr
    cases r with
    | inst i =>
      rcases append_one_split hr with ⟨_, ho⟩ | ⟨_, hx⟩
      · exact .inl ho
      · exact .inr (hx ▸ hok)
    | _ => exact .inl hr
  · intro a ha
    exact ⟨_, I, huser, List.getElem?_concat_length, huid, hty a ha⟩

theorem InvH.modifyTempl {syms : List Symbol} {doc : Doc} (h : InvH syms doc) (t : Nat) (f : Templ → Templ)
    (hinst : ∀ T, (f T).inst = T.inst)
    (hedges : ∀ T, doc.templates[t]? = some T → ∀ i e, (f T).edges[i]? = some e → e.nr = i ∧ EdgeOk e) :
    InvH syms (doc.modifyTempl t f) := by
  have hi : ∀ r, (doc.modifyTempl t f).inst? r = doc.inst? r := by
    intro r
    cases r with
    | templ i =>
      simp only [Doc.inst?, Doc.modifyTempl, ← List.getElem?_map]
      rw [map_modify_of_comp (fun T : Templ => T.inst) hinst]
    | _ => rfl
  have huid : ∀ r, (doc.modifyTempl t f).uidOf r = doc.uidOf r := by
    intro r
    cases r with
    | templ i =>
      calc (doc.modifyTempl t f).uidOf (.templ i)
        _ = ((doc.modifyTempl t f).inst? (.templ i)).map (·.uid) := (Option.map_map ..).symm
        _ = (doc.inst? (.templ i)).map (·.uid) := congrArg _ (hi (.templ i))
        _ = doc.uidOf (.templ i) := Option.map_map ..
    | _ => rfl
  refine ⟨?_, ?_, ?_, ?_, h.numLoc, h.numBp, ?_, ?_, ?_⟩
  · intro r sid hr
    rw [huid] at hr
    exact h.own r sid hr
  · intro sid sym hs hl
    obtain ⟨i, hu, hd⟩ := h.backLoc sid sym hs hl
    exact ⟨i, hu, (huid _).trans hd⟩
  · intro sid sym hs hl
    obtain ⟨i, hu, hd⟩ := h.backBp sid sym hs hl
    exact ⟨i, hu, (huid _).trans hd⟩
  · intro sid sym a hs hl
    obtain ⟨r, I, hu, hd, hI⟩ := h.backInst sid sym a hs hl
    exact ⟨r, I, hu, (hi r).trans hd, hI⟩
  · intro t' T' i e hT' he
    rcases getElem?_modify_cases hT' with ho | ⟨_, T, hd, rfl⟩
    · exact h.numEdge t' T' i e ho he
    · exact (hedges T hd i e he).1
  · intro t' T' i e hT' he
    rcases getElem?_modify_cases hT' with ho | ⟨_, T, hd, rfl⟩
    · exact h.edges t' T' i e ho he
    · exact (hedges T hd i e he).2
  · intro r I hr
    rw [hi] at hr
    exact h.insts r I hr

/-- `symbol_t::set_type` on a location symbol with another location type (urgent / committed prefix) -/
theorem InvH.setTy {syms : List Symbol} {doc : Doc} (h : InvH syms doc) {sid : SymId} {ty' : STy} {sym0 : Symbol}
    (hold : syms[sid]? = some sym0) (hloc0 : sym0.ty.isLocation) (hnew : ty'.isLocation) :
    InvH (syms.modify sid (fun sym => { sym with ty := ty' })) doc := by
  have huser : ∀ sid', symUser (syms.modify sid (fun sym => { sym with ty := ty' })) sid' = symUser syms sid' := by
    intro sid'
    unfold symUser
    rw [List.getElem?_modify]
    cases syms[sid']? with
    | none => rfl
    | some x => by_cases he : sid = sid' <;> simp [he]
  cases ty' with
  | location u c =>
    refine ⟨?_, ?_, ?_, ?_, h.numLoc, h.numBp, h.numEdge, h.edges, ?_⟩
    · intro r sid' hr
      rw [huser]
      exact h.own r sid' hr
    · intro sid' sym' hs hl
      rcases getElem?_modify_cases hs with ho | ⟨rfl, a, ha, rfl⟩
      · exact h.backLoc sid' sym' ho hl
      · cases hold.symm.trans ha; exact h.backLoc _ sym0 hold hloc0
    · intro sid' sym' hs hl
      rcases getElem?_modify_cases hs with ho | ⟨_, a, _, rfl⟩
      · exact h.backBp sid' sym' ho hl
      · cases hl
    · intro sid' sym' a hs hl
      rcases getElem?_modify_cases hs with ho | ⟨_, a, _, rfl⟩
      · exact h.backInst sid' sym' a ho hl
      · exact hl.elim nofun nofun
    · intro r I hr
      have ho := h.insts r I hr
      refine ⟨ho.unboundLe, ho.mapDom, ho.mapKeys, fun hk => ?_⟩
      obtain ⟨sym, hs, ht⟩ := ho.arity hk
      refine ⟨sym, ?_, ht⟩
      rw [List.getElem?_modify_ne _ _, hs]
      rintro rfl
      cases hold.symm.trans hs
      rcases ht with ht | ht <;> (rw [ht] at hloc0; cases hloc0)
  | _ => cases hnew

/-- the two pointers `mkEdge` derives from an endpoint symbol: exactly one is set, and it is of its kind -/
theorem InvH.endpoint {syms : List Symbol} {doc : Doc} (h : InvH syms doc) {sid : SymId} {sym : Symbol} (hs : syms[sid]? = some sym)
    (hk : sym.ty.isLocation ∨ sym.ty.isBranchpoint) :
    (if sym.ty.isLocation then sym.user else none).isSome = !(if sym.ty.isLocation then none else sym.user).isSome ∧
    (∀ o, (if sym.ty.isLocation then sym.user else none) = some o → ∃ i, o = .loc i) ∧
    (∀ o, (if sym.ty.isLocation then none else sym.user) = some o → ∃ i, o = .bp i) := by
  cases hl : sym.ty.isLocation with
  | true =>
    obtain ⟨i, hu, _⟩ := h.backLoc sid sym hs hl
    simp [hu]
  | false =>
    obtain ⟨i, hu, _⟩ := h.backBp sid sym hs (hk.resolve_left (by simp [hl]))
    simp [hu]

theorem nr_mkEdge {edges : List Edge} {fs ts : Symbol} {control : Bool} {fr : FrameId} {g a p : Expr}
    (hnum : ∀ (i : Nat) (e : Edge), edges[i]? = some e → e.nr = i) :
    (mkEdge edges fs ts control fr g a p).nr = edges.length := by
  simp only [mkEdge]
  cases hl : edges.getLast? with
  | none => simp [List.getLast?_eq_none_iff] at hl; simp [hl]
  | some e =>
    rw [List.getLast?_eq_getElem?] at hl
    have := hnum _ _ hl
    have hlt := getElem?_lt_of_some hl
    simp; omega

theorem inv_addEdge {s : BState} (h : Inv s) (t : Nat) {a b : String} {fs ts : Symbol} (hf : s.resolveEndpoint a = some fs)
    (ht : s.resolveEndpoint b = some ts) (control : Bool) (fr : FrameId) (g u p : Expr) :
    InvH s.syms (s.doc.modifyTempl t (fun T => { T with edges := T.edges ++ [mkEdge T.edges fs ts control fr g u p] })) := by
  refine InvH.modifyTempl h t _ (fun T => rfl) ?_
  intro T hT i e he
  rcases append_one_split he with ⟨_, ho⟩ | ⟨hi, hx⟩
  · exact ⟨h.numEdge t T i e hT ho, h.edges t T i e hT ho⟩
  · subst hx; subst hi
    obtain ⟨_, hrf, hkf⟩ := resolveEndpoint_resolveSym hf
    obtain ⟨_, hrt, hkt⟩ := resolveEndpoint_resolveSym ht
    obtain ⟨f1, f2, f3⟩ := h.endpoint (resolveSym_sym hrf) hkf
    obtain ⟨t1, t2, t3⟩ := h.endpoint (resolveSym_sym hrt) hkt
    exact ⟨nr_mkEdge fun i e he => h.numEdge t T i e hT he, ⟨f1, t1, f2, f3, t2, t3⟩⟩

theorem EdgeOk.of_sameEnds {e' e : Edge} (h : e'.sameEnds e) (ok : EdgeOk e) : EdgeOk e' :=
  have ⟨_, src, srcb, dst, dstb⟩ := h
  { srcOne := src ▸ srcb ▸ ok.srcOne
    dstOne := dst ▸ dstb ▸ ok.dstOne
    srcLoc := src ▸ ok.srcLoc
    srcBp := srcb ▸ ok.srcBp
    dstLoc := dst ▸ ok.dstLoc
    dstBp := dstb ▸ ok.dstBp }

theorem inv_relabel {s : BState} (h : Inv s) (t i : Nat) {g : Edge → Edge} (hg : ∀ ed, (g ed).sameEnds ed) :
    InvH s.syms (s.doc.modifyTempl t (fun T => { T with edges := T.edges.modify i g })) := by
  refine InvH.modifyTempl h t _ (fun T => rfl) ?_
  intro T hT j e he
  obtain ⟨e0, ho, hsame⟩ := getElem?_modify_rel Edge.sameEnds.refl hg he
  exact ⟨hsame.1.trans (h.numEdge t T j e0 hT ho), (h.edges t T j e0 hT ho).of_sameEnds hsame⟩

/-! `instance_t::mapping` is a `std::map`: `mapInsert` overwrites the entry of a key it has, else adds one. -/

theorem mem_keys {m : List (SymId × Expr)} {x : SymId} : x ∈ m.map Prod.fst ↔ ∃ e, (x, e) ∈ m := by
  simp only [List.mem_map, Prod.exists, exists_and_right, exists_eq_right]

theorem keys_mapInsert (m : List (SymId × Expr)) (k : SymId) (v : Expr) :
    (mapInsert m k v).map Prod.fst = if k ∈ m.map Prod.fst then m.map Prod.fst else m.map Prod.fst ++ [k] := by
  have hany : (m.any fun kv => kv.1 = k) = true ↔ k ∈ m.map Prod.fst := by
    simp only [List.any_eq_true, decide_eq_true_eq, List.mem_map]
  unfold mapInsert
  by_cases hk : k ∈ m.map Prod.fst
  · rw [if_pos (hany.mpr hk), if_pos hk, List.map_map]
    apply List.map_congr_left
    intro kv _
    by_cases h : kv.1 = k <;> simp [h]
  · rw [if_neg (fun h => hk (hany.mp h)), if_neg hk, List.map_append]; rfl

theorem mem_keys_mapInsert {m : List (SymId × Expr)} {k x : SymId} {v : Expr} :
    x ∈ (mapInsert m k v).map Prod.fst ↔ x ∈ m.map Prod.fst ∨ x = k := by
  rw [keys_mapInsert]
  split
  · rename_i hk; exact ⟨.inl, fun h => h.elim id (fun e => e ▸ hk)⟩
  · rw [List.mem_append, List.mem_singleton]

theorem nodup_keys_mapInsert {m : List (SymId × Expr)} {k : SymId} {v : Expr} (h : (m.map Prod.fst).Nodup) :
    ((mapInsert m k v).map Prod.fst).Nodup := by
  rw [keys_mapInsert]
  split
  · exact h
  · rename_i hk
    refine List.nodup_append.mpr ⟨h, List.nodup_cons.mpr ⟨List.not_mem_nil, List.nodup_nil⟩, fun a ha b hb hab => hk ?_⟩
    rw [← List.mem_singleton.mp hb, ← hab]; exact ha

theorem keys_bindArgs (m : List (SymId × Expr)) (ps : List SymId) (es : List Expr) (h : (m.map Prod.fst).Nodup) :
    ((bindArgs m ps es).map Prod.fst).Nodup ∧
    ∀ x, x ∈ (bindArgs m ps es).map Prod.fst ↔ x ∈ m.map Prod.fst ∨ x ∈ ps.take es.length := by
  induction ps generalizing m es with
  | nil => cases es <;> exact ⟨h, fun x => (or_iff_left List.not_mem_nil).symm⟩
  | cons p ps ih =>
    cases es with
    | nil => exact ⟨h, fun x => (or_iff_left List.not_mem_nil).symm⟩
    | cons e es =>
      obtain ⟨h1, h2⟩ := ih (mapInsert m p e) es (nodup_keys_mapInsert h)
      refine ⟨h1, fun x => ?_⟩
      rw [bindArgs, h2, mem_keys_mapInsert, List.length_cons, List.take_succ_cons, List.mem_cons, or_assoc]

theorem inv_addInstance {s : BState} (h : Inv s) (lsc : Bool) (name : String) (old : Inst) (ps : List SymId) (exprs : List Expr)
    (hold : InstOk s.syms old) (hlen : exprs.length = old.unbound) : Inv (s.addInstance lsc name old ps exprs) := by
  unfold BState.addInstance
  obtain ⟨hnd, hmem⟩ := keys_bindArgs old.mapping old.params exprs hold.mapKeys
  refine InvH.addInst h _ _ rfl rfl ?_ (by cases lsc <;> rfl) (by cases lsc <;> rfl) ?_
  · refine ⟨by simp, fun x => ?_, hnd, fun _ => ?_⟩
    · -- bound are the parameters `old` had bound and the `old.unbound` in front of them: all of `old.params`
      rw [← mem_keys, hmem x, mem_keys, hold.mapDom x, hlen]
      rw [List.drop_left, or_comm, ← List.mem_append, List.take_append_drop]
    · exact ⟨_, List.getElem?_concat_length, by cases lsc <;> simp⟩
  · intro a ha
    cases lsc <;> simp at ha <;> simp [ha]

theorem inv_addProcess {s : BState} (h : Inv s) (inst : Inst) (hold : InstOk s.syms inst) : Inv (s.addProcess inst) := by
  unfold BState.addProcess
  split <;> exact InvH.addInst h _ _ rfl rfl ⟨hold.unboundLe, hold.mapDom, hold.mapKeys, fun hk => absurd rfl hk⟩ rfl rfl
    fun _ ha => ha.elim nofun nofun

/-- the instance a template / partial-instance symbol denotes (`instantiation_end`, `process`) -/
theorem InvH.instOf {syms : List Symbol} {doc : Doc} (h : InvH syms doc) {sid : SymId} {sym : Symbol} {a : Nat} {old : Inst}
    (hs : syms[sid]? = some sym) (hty : sym.ty = .inst a ∨ sym.ty = .lscInst a) (hold : sym.user.bind doc.inst? = some old) :
    InstOk syms old ∧ old.unbound = a := by
  obtain ⟨r, I, hu, hi, _, hun⟩ := h.backInst sid sym a hs hty
  rw [hu, Option.bind_some, hi] at hold
  cases hold
  exact ⟨h.insts r _ hi, hun⟩

theorem inv_warning {s : BState} (h : Inv s) : Inv s.warning := h

@[simp] theorem error_syms (s : BState) : s.error.syms = s.syms := rfl
@[simp] theorem error_doc (s : BState) : s.error.doc = s.doc := rfl
@[simp] theorem warning_syms (s : BState) : s.warning.syms = s.syms := rfl
@[simp] theorem warning_doc (s : BState) : s.warning.doc = s.doc := rfl
@[simp] theorem pushFrame_syms (s : BState) (f) : (s.pushFrame f).syms = s.syms := rfl
@[simp] theorem pushFrame_doc (s : BState) (f) : (s.pushFrame f).doc = s.doc := rfl
@[simp] theorem popFrame_syms (s : BState) : s.popFrame.syms = s.syms := rfl
@[simp] theorem popFrame_doc (s : BState) : s.popFrame.doc = s.doc := rfl
@[simp] theorem pushNewFrame_syms (s : BState) : s.pushNewFrame.syms = s.syms := rfl
@[simp] theorem pushNewFrame_doc (s : BState) : s.pushNewFrame.doc = s.doc := rfl
@[simp] theorem newFrame_syms (s : BState) (p l) : (s.newFrame p l).1.syms = s.syms := rfl
@[simp] theorem newFrame_doc (s : BState) (p l) : (s.newFrame p l).1.doc = s.doc := rfl
@[simp] theorem popFrag_syms (s : BState) (n) : (s.popFrag n).syms = s.syms := rfl
@[simp] theorem popFrag_doc (s : BState) (n) : (s.popFrag n).doc = s.doc := rfl
@[simp] theorem pushFresh_syms (s : BState) : s.pushFresh.syms = s.syms := rfl
@[simp] theorem pushFresh_doc (s : BState) : s.pushFresh.doc = s.doc := rfl
@[simp] theorem fresh_syms (s : BState) : s.fresh.1.syms = s.syms := rfl
@[simp] theorem fresh_doc (s : BState) : s.fresh.1.doc = s.doc := rfl
@[simp] theorem popType_syms (s : BState) : s.popType.1.syms = s.syms := rfl
@[simp] theorem popType_doc (s : BState) : s.popType.1.doc = s.doc := rfl
@[simp] theorem pushType_syms (s : BState) (t) : (s.pushType t).syms = s.syms := rfl
@[simp] theorem pushType_doc (s : BState) (t) : (s.pushType t).doc = s.doc := rfl

theorem inv_wrap {s s' : BState} (h : Inv s) (h1 : s'.syms = s.syms := by simp) (h2 : s'.doc = s.doc := by simp) : Inv s' := by
  unfold Inv at *; rw [h1, h2]; exact h

theorem Builds.inv {safe special : Prop} {s s' : BState} (b : Builds safe special s s') (h : Inv s) : Inv s' := by
  induction b with
  | trans _ _ ih1 ih2 => exact ih2 (ih1 h)
  | quiet h1 _ _ _ _ h6 _ => exact inv_wrap h h1 h6
  | addSymbol s f n hp => exact InvH.addPlain h ⟨n, _, none⟩ hp
  | addTemplate s n isTA dyn _ => exact InvH.addTempl h n isTA dyn _ _
  | defineTempl | setInit =>
    exact InvH.modifyTempl h _ _ (fun _ => rfl) (fun T hT i e he => ⟨h.numEdge _ T i e hT he, h.edges _ T i e hT he⟩)
  | addVar s fr n ty owner => exact InvH.addVar h n ty owner
  | addFunction s n => exact InvH.addFunc h n _
  | addLoc s _ n a b => exact InvH.addLoc h n _ a b
  | addBp s _ n => exact InvH.addBp h n _
  | setSymTy s hr hl u c => exact InvH.setTy h (resolveSym_sym hr) hl rfl
  | addEdge s _ hf ht c fr g u p => exact inv_addEdge h _ hf ht c fr g u p
  | relabel s t i hg => exact inv_relabel h t i hg
  | addInstance s hr lsc hty hold hlen name ps =>
    subst hlen
    obtain ⟨hok, hun⟩ := h.instOf (resolveSym_sym hr) (by cases lsc; exact .inl hty; exact .inr hty) hold
    exact inv_addInstance h lsc name _ ps _ hok hun.symm
  | addProcess s hr hty hold => exact inv_addProcess h _ (h.instOf (resolveSym_sym hr) (.inl hty) hold).1
  | _ => exact h

end UtapModel.Builder
