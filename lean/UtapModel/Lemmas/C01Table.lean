/- C01: facts about today's tables (Gen/Grammar.lean, Model/C01Effect.lean): the effect rows are well formed, and the
   exception set is within the known shapes -- a finite check over the generated table by kernel evaluation, made
   affordable by the form `pinnedFast` in which it is evaluated. -/
import UtapModel.Model.C01Pin
import UtapModel.Lemmas.C01Still
namespace UtapModel.C01
open UtapModel.Gen.Grammar

theorem row_wf {l : List (Stack × Eff)} (h : l.all (fun x => x.2.wf) = true) (s : Stack) : (row l s).wf = true := by
  unfold row
  split
  · rename_i x hx
    exact List.all_eq_true.mp h x (List.mem_of_find?_eq_some hx)
  · rfl

theorem effectRow_wf (cb : CB) (s : Stack) : (effectRow cb s).wf = true := by
  cases cb <;> exact row_wf (by decide +kernel) s

/-- the generated adjustments of `effect` only raise `need0` or set the reset flags -/
theorem effect_wf_of_row {cb : CB} {s : Stack} (h : (effectRow cb s).wf = true) : (effect cb s).wf = true := by
  have hneed : ∀ (e : Eff) (c : Bool), e.wf = true →
      (if c = true then ({ e with need0 := max e.need0 1 } : Eff) else e).wf = true := by
    intro e c he
    cases c
    · exact he
    · simp only [Eff.wf, Bool.and_eq_true, decide_eq_true_eq, ↓reduceIte] at he ⊢
      omega
  have hreset : ∀ (e : Eff) (c : Bool), e.wf = true →
      (if c = true then ({ e with reset := true, bump := true } : Eff) else e).wf = true := by
    intro e c he
    cases c <;> exact he
  exact hreset _ _ (hneed _ _ h)

theorem utapGood_lb (s : Stack) : ∀ p ∈ utapGood s, lbProd (utapSig s) (utapEff s) p = true :=
  fun _ hp => (List.mem_filter.mp hp).2

/-- `lbProd` on stack `s`, with the symbolic run skipped where stillness settles the production.  Neither test looks at
    the id: with the id blanked, the many productions that differ in nothing else are the same closed term, and the
    kernel's cache answers the repeats. -/
def goodFast (s : Stack) : P → Bool
  | ⟨_, lhs, items, attr⟩ =>
    stillProd (utapSig s) (utapEff s) ⟨0, lhs, items, attr⟩ || lbProd (utapSig s) (utapEff s) ⟨0, lhs, items, attr⟩

theorem goodFast_eq (s : Stack) : goodFast s = lbProd (utapSig s) (utapEff s) :=
  funext (still_or_lbProd (utapSig s) (utapEff s))

theorem utapGood_eq (s : Stack) : utapGood s = prods.filter (goodFast s) := by
  rw [goodFast_eq, utapGood]

/-- `pinnedOn s` as one pass over `prods`: a production passes the obligation, by `goodFast`, or its key is listed;
    `pinnedOn` filters the failing productions out with `lbProd` first and looks their ids up afterwards -/
def pinnedFast (s : Stack) : Bool :=
  prods.all fun p => goodFast s p || knownExceptionKeys.contains (prodKey p.id, s)

theorem pinnedFast_eq (s : Stack) : pinnedFast s = pinnedOn s := by
  simp only [pinnedFast, goodFast_eq, pinnedOn, utapExceptionsOn, List.all_map, List.all_filter, Bool.not_not,
    Function.comp_def]

theorem Stack.mem_all (s : Stack) : s ∈ Stack.all := by cases s <;> decide

/-- One statement for the twelve stacks: inside one declaration the kernel's cache shares the walk over `prods`, the rows
    of `sigOf` and the repeated productions between the stacks. -/
theorem pinned_all : ∀ s ∈ Stack.all, pinnedFast s = true := by decide +kernel

end UtapModel.C01
