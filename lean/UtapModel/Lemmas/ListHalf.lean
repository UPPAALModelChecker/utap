/- The models walk a tree by mutual recursion: a function on nodes and its list half, which joins the results over the
   children with `++`, `||` or `&&`.  A list half is `flatMap`, `any` or `all` of the node function; its two defining
   equations say so, and from there on facts about it are facts about lists.  Core Lean only. -/
namespace UtapModel

variable {α β : Type}

theorem eq_flatMap {f : α → List β} {fL : List α → List β} (hnil : fL [] = [])
    (hcons : ∀ a l, fL (a :: l) = f a ++ fL l) : ∀ l, fL l = l.flatMap f
  | [] => hnil
  | a :: l => by rw [hcons, eq_flatMap hnil hcons l, List.flatMap_cons]

theorem eq_any {p : α → Bool} {pL : List α → Bool} (hnil : pL [] = false)
    (hcons : ∀ a l, pL (a :: l) = (p a || pL l)) : ∀ l, pL l = l.any p
  | [] => hnil
  | a :: l => by rw [hcons, eq_any hnil hcons l, List.any_cons]

theorem eq_all {p : α → Bool} {pL : List α → Bool} (hnil : pL [] = true)
    (hcons : ∀ a l, pL (a :: l) = (p a && pL l)) : ∀ l, pL l = l.all p
  | [] => hnil
  | a :: l => by rw [hcons, eq_all hnil hcons l, List.all_cons]

end UtapModel
