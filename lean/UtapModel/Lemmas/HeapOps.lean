/- `clone_deeper`, `subst` and `replaceAt` thread a supply `n` of identities and return the next free one: what they
   build has its identities in `[n, next)` (`cloneDeeperWith_ids`), and a node of the result with an identity below `n`
   is a node of an input (`subst_frame`).  Beside that, each law of Props/C19.lean in the form its induction needs,
   along the operation's own mutual recursion over tree and list of children.  Core Lean only. -/
import UtapModel.Lemmas.Heap

namespace UtapModel.Heap

mutual
theorem cloneDeeperWith_ids (g : Option Nat → Option Nat) : ∀ (n : Nat) (e : HExpr),
    n ≤ (cloneDeeperWith g n e).2 ∧ ∀ i ∈ ids (cloneDeeperWith g n e).1, n ≤ i ∧ i < (cloneDeeperWith g n e).2
  | n, .null => by simp [cloneDeeperWith, ids]
  | n, .node j a sub => by
    have ih := cloneDeeperWithL_ids g (n + 1) sub
    simp only [cloneDeeperWith, ids, List.mem_cons]
    refine ⟨by omega, fun i hi => ?_⟩
    rcases hi with rfl | hi
    · omega
    · have := ih.2 i hi; omega
theorem cloneDeeperWithL_ids (g : Option Nat → Option Nat) : ∀ (n : Nat) (es : List HExpr),
    n ≤ (cloneDeeperWithL g n es).2 ∧ ∀ i ∈ idsL (cloneDeeperWithL g n es).1, n ≤ i ∧ i < (cloneDeeperWithL g n es).2
  | n, [] => by simp [cloneDeeperWithL, idsL]
  | n, e :: es => by
    have ih1 := cloneDeeperWith_ids g n e
    have ih2 := cloneDeeperWithL_ids g (cloneDeeperWith g n e).2 es
    simp only [cloneDeeperWithL, idsL, List.mem_append]
    refine ⟨by omega, fun i hi => ?_⟩
    rcases hi with hi | hi
    · have := ih1.2 i hi; omega
    · have := ih2.2 i hi; omega
end

theorem cloneDeeperWith_length (g : Option Nat → Option Nat) : ∀ (n : Nat) (es : List HExpr),
    (cloneDeeperWithL g n es).1.length = es.length
  | _, [] => rfl
  | n, e :: es => by simp [cloneDeeperWithL, cloneDeeperWith_length g _ es]

mutual
theorem equal_cloneDeeper : ∀ (n : Nat) (e : HExpr), noNaN e = true → wellBuilt e = true →
    equal (cloneDeeperWith id n e).1 e = true
  | _, .null => fun _ _ => rfl
  | n, .node j a sub => fun hn hw => by
    simp only [noNaN, Bool.and_eq_true] at hn
    simp only [wellBuilt, Bool.and_eq_true, beq_iff_eq] at hw
    exact equal_of_equalL (attrDiff_self hn.1) (hw.1 ▸ equalL_cloneDeeper (n + 1) sub hn.2 hw.2)
theorem equalL_cloneDeeper : ∀ (n : Nat) (es : List HExpr), noNaNL es = true → wellBuiltL es = true →
    equalL es.length (cloneDeeperWithL id n es).1 es = true
  | _, [] => fun _ _ => rfl
  | n, e :: es => fun hn hw => by
    simp only [noNaNL, Bool.and_eq_true] at hn
    simp only [wellBuiltL, Bool.and_eq_true] at hw
    simp only [cloneDeeperWithL, List.length_cons, equalL, Bool.and_eq_true]
    exact ⟨equal_cloneDeeper n e hn.1 hw.1, equalL_cloneDeeper _ es hn.2 hw.2⟩
end

theorem same_attr_refl (a : Attr) : (a == a) = true := beq_self_eq_true a

mutual
theorem same_refl : ∀ (e : HExpr), same e e = true
  | .null => rfl
  | .node i a s => by simp [same, sameL_refl s]
theorem sameL_refl : ∀ (es : List HExpr), sameL es es = true
  | [] => rfl
  | e :: es => by simp [sameL, same_refl e, sameL_refl es]
end

mutual
theorem same_cloneDeeper : ∀ (n : Nat) (e : HExpr), same (cloneDeeperWith id n e).1 e = true
  | _, .null => rfl
  | n, .node j a sub => by
    simp only [cloneDeeperWith, id, same, Bool.and_eq_true]
    exact ⟨beq_self_eq_true a, sameL_cloneDeeper (n + 1) sub⟩
theorem sameL_cloneDeeper : ∀ (n : Nat) (es : List HExpr), sameL (cloneDeeperWithL id n es).1 es = true
  | _, [] => rfl
  | n, e :: es => by
    simp only [cloneDeeperWithL, sameL, Bool.and_eq_true]
    exact ⟨same_cloneDeeper n e, sameL_cloneDeeper _ es⟩
end

mutual
theorem mutate_of_not_mem (k : Nat) (f : Attr → List HExpr → Attr × List HExpr) : ∀ (t : HExpr), k ∉ ids t → mutate k f t = t
  | .null, _ => rfl
  | .node i a sub, h => by
    simp only [ids, List.mem_cons, not_or] at h
    rw [mutate, if_neg (by simpa using Ne.symm h.1), mutateL_of_not_mem k f sub h.2]
theorem mutateL_of_not_mem (k : Nat) (f : Attr → List HExpr → Attr × List HExpr) : ∀ (ts : List HExpr), k ∉ idsL ts → mutateL k f ts = ts
  | [], _ => rfl
  | t :: ts, h => by
    simp only [idsL, List.mem_append, not_or] at h
    rw [mutateL, mutate_of_not_mem k f t h.1, mutateL_of_not_mem k f ts h.2]
end

/-- the three branches of `subst` at a node, each with its guard: replaced, kept (no operands by `get_size`), rebuilt
    around its new operands -/
theorem subst_node (s : Nat) (r : HExpr) (n i : Nat) (a : Attr) (sub : List HExpr) :
    (isIdentOf s a = true ∧ subst s r n (.node i a sub) = (r, n)) ∨
    (isIdentOf s a = false ∧ sizeOfAttr a = 0 ∧ subst s r n (.node i a sub) = (.node i a sub, n)) ∨
    (isIdentOf s a = false ∧ sizeOfAttr a ≠ 0 ∧ subst s r n (.node i a sub) =
      (.node n a (substL s r (n + 1) (sizeOfAttr a) sub).1, (substL s r (n + 1) (sizeOfAttr a) sub).2)) := by
  rw [subst]
  cases h1 : isIdentOf s a
  · by_cases h2 : sizeOfAttr a = 0
    · exact .inr (.inl ⟨rfl, h2, by rw [if_neg Bool.false_ne_true, if_pos (beq_iff_eq.2 h2)]⟩)
    · exact .inr (.inr ⟨rfl, h2, by rw [if_neg Bool.false_ne_true, if_neg (mt beq_iff_eq.1 h2)]⟩)
  · exact .inl ⟨rfl, if_pos rfl⟩

mutual
theorem subst_frame (s : Nat) (r : HExpr) : ∀ (n : Nat) (e : HExpr),
    n ≤ (subst s r n e).2 ∧
    ∀ i a sub, HExpr.node i a sub ∈ subtrees (subst s r n e).1 → i < n → (HExpr.node i a sub ∈ subtrees e ∨ HExpr.node i a sub ∈ subtrees r)
  | n, .null => by simp [subst, subtrees]
  | n, .node j b sub => by
    rcases subst_node s r n j b sub with ⟨_, e⟩ | ⟨_, _, e⟩ | ⟨_, _, e⟩ <;> rw [e]
    · exact ⟨Nat.le_refl _, fun i a t h _ => Or.inr h⟩
    · exact ⟨Nat.le_refl _, fun i a t h _ => Or.inl h⟩
    have ih := substL_frame s r (n + 1) (sizeOfAttr b) sub
    refine ⟨Nat.le_of_succ_le ih.1, fun i a t h hlt => ?_⟩
    rcases mem_subtrees_node.1 h with h | h
    · injection h with h0; omega
    · exact (ih.2 i a t h (by omega)).imp_left fun h' => mem_subtrees_node.2 (.inr h')
theorem substL_frame (s : Nat) (r : HExpr) : ∀ (n k : Nat) (es : List HExpr),
    n ≤ (substL s r n k es).2 ∧
    ∀ i a sub, HExpr.node i a sub ∈ subtreesL (substL s r n k es).1 → i < n → (HExpr.node i a sub ∈ subtreesL es ∨ HExpr.node i a sub ∈ subtrees r)
  | n, 0, es => by simp only [substL]; exact ⟨Nat.le_refl _, fun i a t h _ => Or.inl h⟩
  | n, k + 1, [] => by simp [substL, subtreesL]
  | n, k + 1, e :: es => by
    have ih1 := subst_frame s r n e
    have ih2 := substL_frame s r (subst s r n e).2 k es
    simp only [substL]
    refine ⟨by omega, fun i a t h hlt => ?_⟩
    rcases mem_subtreesL_cons.1 h with h | h
    · exact (ih1.2 i a t h hlt).imp_left fun h' => mem_subtreesL_cons.2 (.inl h')
    · exact (ih2.2 i a t h (by omega)).imp_left fun h' => mem_subtreesL_cons.2 (.inr h')
end

mutual
theorem subst_same_spec (s : Nat) (r : HExpr) : ∀ (n : Nat) (e : HExpr), wellBuilt e = true →
    same (subst s r n e).1 (substSpec s r e) = true
  | _, .null => fun _ => rfl
  | n, .node j b sub => fun hw => by
    simp only [wellBuilt, Bool.and_eq_true, beq_iff_eq] at hw
    rcases subst_node s r n j b sub with ⟨h1, e⟩ | ⟨h1, h2, e⟩ | ⟨h1, _, e⟩ <;> rw [e, substSpec, h1]
    · exact same_refl r
    · -- no operands by `get_size`, hence none at all
      cases List.eq_nil_of_length_eq_zero (hw.1.symm.trans h2)
      exact same_refl _
    · simp only [Bool.false_eq_true, if_false, same, Bool.and_eq_true]
      exact ⟨beq_self_eq_true b, hw.1 ▸ substL_same_spec s r (n + 1) sub hw.2⟩
theorem substL_same_spec (s : Nat) (r : HExpr) : ∀ (n : Nat) (es : List HExpr), wellBuiltL es = true →
    sameL (substL s r n es.length es).1 (substSpecL s r es) = true
  | _, [] => fun _ => rfl
  | n, e :: es => fun hw => by
    simp only [wellBuiltL, Bool.and_eq_true] at hw
    simp only [List.length_cons, substL, substSpecL, sameL, Bool.and_eq_true]
    exact ⟨subst_same_spec s r n e hw.1, substL_same_spec s r _ es hw.2⟩
end

mutual
theorem subst_self_equal (s : Nat) (r : HExpr) : ∀ (n : Nat) (e : HExpr), noNaN e = true → wellBuilt e = true →
    (∀ i a sub, HExpr.node i a sub ∈ subtrees e → isIdentOf s a = true → equal r (HExpr.node i a sub) = true) →
    equal (subst s r n e).1 e = true
  | _, .null => fun _ _ _ => rfl
  | n, .node j b sub => fun hn hw hr => by
    simp only [noNaN, Bool.and_eq_true] at hn
    simp only [wellBuilt, Bool.and_eq_true, beq_iff_eq] at hw
    rcases subst_node s r n j b sub with ⟨h1, e⟩ | ⟨_, _, e⟩ | ⟨_, _, e⟩ <;> rw [e]
    · exact hr j b sub (subtrees_self _) h1
    · exact equal_refl _
    · exact equal_of_equalL (attrDiff_self hn.1) (hw.1 ▸ substL_self_equal s r (n + 1) sub hn.2 hw.2
        fun i a t h => hr i a t (mem_subtrees_node.2 (.inr h)))
theorem substL_self_equal (s : Nat) (r : HExpr) : ∀ (n : Nat) (es : List HExpr), noNaNL es = true → wellBuiltL es = true →
    (∀ i a sub, HExpr.node i a sub ∈ subtreesL es → isIdentOf s a = true → equal r (HExpr.node i a sub) = true) →
    equalL es.length (substL s r n es.length es).1 es = true
  | _, [] => fun _ _ _ => rfl
  | n, e :: es => fun hn hw hr => by
    simp only [noNaNL, Bool.and_eq_true] at hn
    simp only [wellBuiltL, Bool.and_eq_true] at hw
    simp only [List.length_cons, substL, equalL, Bool.and_eq_true]
    exact ⟨subst_self_equal s r n e hn.1 hw.1 fun i a t h => hr i a t (mem_subtreesL_cons.2 (.inl h)),
           substL_self_equal s r _ es hn.2 hw.2 fun i a t h => hr i a t (mem_subtreesL_cons.2 (.inr h))⟩
end

theorem equalL_false_of_prefix {x y : HExpr} (h : equal x y = false) {s t : List HExpr} :
    ∀ (pre : List HExpr) (n : Nat), pre.length < n → equalL n (pre ++ x :: s) (pre ++ y :: t) = false
  | [], n + 1, _ => by rw [List.nil_append, List.nil_append, equalL, h, Bool.false_and]
  | p :: pre, n + 1, hn => by
    rw [List.cons_append, List.cons_append, equalL,
      equalL_false_of_prefix h pre n (Nat.lt_of_succ_lt_succ hn), Bool.and_false]

/-- every index of the path is that of a child present at its node, so that `subAt` and `replaceAt` reach a node of
    the tree -/
def validPath : List Nat → HExpr → Bool
  | [], _ => true
  | _ :: _, .null => false
  | p :: ps, .node _ _ sub => p < sub.length && validPath ps (sub.getD p .null)

mutual
theorem equal_replaceAt (new : HExpr) : ∀ (path : List Nat) (n : Nat) (e : HExpr), wellBuilt e = true → (∀ i ∈ ids e, i < n) →
    validPath path e = true → equal (subAt path e) new = false → equal e (replaceAt new path n e).1 = false
  | [], _, _ => fun _ _ _ h => by rw [replaceAt]; exact h
  | _ :: _, _, .null => fun _ _ hv _ => by simp [validPath] at hv
  | p :: ps, n, .node j a sub => fun hw hf hv h => by
    simp only [wellBuilt, Bool.and_eq_true, beq_iff_eq] at hw
    simp only [validPath, Bool.and_eq_true, decide_eq_true_eq] at hv
    simp only [ids, List.forall_mem_cons] at hf
    -- the rebuilt root is a new object, so `equal` goes on to the children
    rw [replaceAt, equal_node_of_ne (Nat.ne_of_lt hf.1),
      equalL_replaceAtL new p ps (n + 1) sub _ hw.2 (fun i hi => Nat.lt_succ_of_lt (hf.2 i hi)) hv.1 (hw.1 ▸ hv.1) hv.2 h,
      Bool.and_false]
theorem equalL_replaceAtL (new : HExpr) : ∀ (p : Nat) (ps : List Nat) (n : Nat) (es : List HExpr) (k : Nat),
    wellBuiltL es = true → (∀ i ∈ idsL es, i < n) → p < es.length → p < k →
    validPath ps (es.getD p .null) = true → equal (subAt ps (es.getD p .null)) new = false →
    equalL k es (replaceAtL new p ps n es).1 = false
  | _, _, _, [], _ => fun _ _ hp _ _ _ => by simp at hp
  | _, _, _, _ :: _, 0 => fun _ _ _ hk _ _ => by simp at hk
  | 0, ps, n, e :: es, k + 1 => fun hw hf _ _ hv h => by
    simp only [wellBuiltL, Bool.and_eq_true] at hw
    simp only [idsL, List.mem_append] at hf
    rw [replaceAtL, equalL, equal_replaceAt new ps n e hw.1 (fun i hi => hf i (.inl hi)) hv h, Bool.false_and]
  | p + 1, ps, n, e :: es, k + 1 => fun hw hf hp hk hv h => by
    simp only [wellBuiltL, Bool.and_eq_true] at hw
    simp only [idsL, List.mem_append] at hf
    rw [replaceAtL, equalL, equalL_replaceAtL new p ps n es k hw.2 (fun i hi => hf i (.inr hi))
      (Nat.lt_of_succ_lt_succ hp) (Nat.lt_of_succ_lt_succ hk) hv h, Bool.and_false]
end

theorem builtArity_table (k : Kind) : builtArity k = none ∨ builtArity k = some (arityOf k) := by
  cases k <;> decide +kernel

theorem sizeOfAttr_of_built {a : Attr} {n : Nat} (h : builtSize a n = true) : sizeOfAttr a = n := by
  unfold builtSize at h
  unfold sizeOfAttr
  rcases builtArity_table a.kind with h0 | h0
  · simp [h0] at h
  · rw [h0] at h
    cases har : arityOf a.kind with
    | fixed m => simpa [har] using h
    | counted =>
      simp only [har, beq_iff_eq] at h
      simp [h]
    | unlisted => simp [har] at h

mutual
theorem wellBuilt_of_parseBuilt : ∀ (e : HExpr), parseBuilt e = true → wellBuilt e = true
  | .null, h => by simp [parseBuilt] at h
  | .node i a sub, h => by
    simp only [parseBuilt, Bool.and_eq_true] at h
    simp only [wellBuilt, Bool.and_eq_true, beq_iff_eq]
    exact ⟨sizeOfAttr_of_built h.1, wellBuiltL_of_parseBuiltL sub h.2⟩
theorem wellBuiltL_of_parseBuiltL : ∀ (es : List HExpr), parseBuiltL es = true → wellBuiltL es = true
  | [], _ => rfl
  | e :: es, h => by
    simp only [parseBuiltL, Bool.and_eq_true] at h
    simp [wellBuiltL, wellBuilt_of_parseBuilt e h.1, wellBuiltL_of_parseBuiltL es h.2]
end

theorem valText_eq {v w : Val} (h : valEq v w = true) : valText v = valText w := by
  rcases valEq_cases h with ⟨_, _, rfl, rfl, _⟩ | rfl <;> rfl

theorem payload_eq (symName : Nat → String) (fmtDouble : Nat → String) {a b : Attr} (hd : attrDiff a b = false)
    (hc : ((!(a.kind == .kCONSTANT || a.kind == .kVAR_INDEX)) || (a.ty == b.ty && a.val == b.val)) = true) :
    payload symName fmtDouble a = payload symName fmtDouble b := by
  obtain ⟨_, hk, hv, hs⟩ := attrDiff_false hd
  unfold payload
  rw [← hk, ← hs]
  by_cases hcon : (a.kind == Kind.kCONSTANT || a.kind == Kind.kVAR_INDEX) = true
  · simp only [hcon, Bool.not_true, Bool.false_or, Bool.and_eq_true, beq_iff_eq] at hc
    rw [← hc.1, ← hc.2]
  · rw [if_neg hcon, if_neg hcon, valText_eq hv]

mutual
theorem text_eq_of_equal (U : List HExpr) (hcl : Closed U) (hco : Coherent U)
    (symName : Nat → String) (fmtDouble : Nat → String) (lay : Kind → String → List String → String) :
    ∀ (a b : HExpr), a ∈ U → b ∈ U → wellBuilt a = true → wellBuilt b = true → equal a b = true → constCompat a b = true →
      text symName fmtDouble lay a = text symName fmtDouble lay b
  | .null, .null => fun _ _ _ _ _ _ => rfl
  | .null, .node .. => fun _ _ _ _ h _ => by simp [equal] at h
  | .node .., .null => fun _ _ _ _ h _ => by simp [equal] at h
  | .node i a s, .node j b t => fun ha hb hwa hwb h hc => by
    by_cases hij : i = j
    · rw [hco i a s j b t ha hb hij]
    rw [equal_node_of_ne hij, Bool.and_eq_true, Bool.not_eq_true'] at h
    simp only [constCompat, Bool.and_eq_true] at hc
    simp only [wellBuilt, Bool.and_eq_true, beq_iff_eq] at hwa hwb
    obtain ⟨hsz, hk, _⟩ := attrDiff_false h.1
    rw [text, text, payload_eq symName fmtDouble h.1 hc.1, hk,
      textL_eq_of_equalL U hcl hco symName fmtDouble lay s t (hcl i a s ha) (hcl j b t hb) hwa.2 hwb.2
        (hwa.1.symm.trans (hsz.trans hwb.1)) (hwa.1 ▸ h.2) hc.2]
theorem textL_eq_of_equalL (U : List HExpr) (hcl : Closed U) (hco : Coherent U)
    (symName : Nat → String) (fmtDouble : Nat → String) (lay : Kind → String → List String → String) :
    ∀ (s t : List HExpr), (∀ x ∈ s, x ∈ U) → (∀ x ∈ t, x ∈ U) → wellBuiltL s = true → wellBuiltL t = true →
      s.length = t.length → equalL s.length s t = true → constCompatL s t = true →
      textL symName fmtDouble lay s = textL symName fmtDouble lay t
  | [], [] => fun _ _ _ _ _ _ _ => rfl
  | [], _ :: _ => fun _ _ _ _ hl _ _ => by simp at hl
  | _ :: _, [] => fun _ _ _ _ hl _ _ => by simp at hl
  | x :: xs, y :: ys => fun hs ht hws hwt hl h hc => by
    simp only [wellBuiltL, Bool.and_eq_true] at hws hwt
    simp only [List.length_cons, equalL, Bool.and_eq_true] at h
    simp only [constCompatL, Bool.and_eq_true] at hc
    have ⟨hx, hxs⟩ := List.forall_mem_cons.1 hs
    have ⟨hy, hys⟩ := List.forall_mem_cons.1 ht
    rw [textL, textL, text_eq_of_equal U hcl hco symName fmtDouble lay x y hx hy hws.1 hwt.1 h.1 hc.1,
      textL_eq_of_equalL U hcl hco symName fmtDouble lay xs ys hxs hys hws.2 hwt.2 (Nat.succ.inj hl) h.2 hc.2]
end

end UtapModel.Heap
