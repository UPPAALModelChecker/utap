/- The text of a label fires only expression-level callbacks (`Call.isExprCall`).  A run of them leaves what lies below
   its entry level alone, on the frame stack and on the expression stack alike (`run_stack`); a run of any callbacks only
   appends declarations (`Grows`, `Builds.grows`). -/
import UtapModel.Lemmas.C08Build

namespace UtapModel.Builder

/-- callbacks a label's token string can fire before the label's own callback -/
def Call.isExprCall : Call → Bool
  | .handleError | .handleWarning | .frag _ _ | .exprIdentifier _ | .quantBegin _ | .quantEnd | .dynQuantBegin _ | .dynQuantEnd
  | .typeDuplicate | .typePop | .typePrim _ _ _ | .typeName _ | .typeArrayOfSize _ | .typeArrayOfType _ | .typeStruct | .structField => true
  | _ => false

/-- effect of an expression-level callback on the depth of the frame stack -/
def Call.frameDelta : Call → Int
  | .quantBegin _ | .dynQuantBegin _ => 1
  | .quantEnd | .dynQuantEnd => -1
  | _ => 0

/-- depth of frames pushed above the entry level after the list; `none` if the list pops below its entry level -/
def frameBal : Nat → List Call → Option Nat
  | d, [] => some d
  | d, c :: cs =>
    if c.frameDelta = 1 then frameBal (d + 1) cs
    else if c.frameDelta = -1 then (if d = 0 then none else frameBal (d - 1) cs)
    else frameBal d cs

/-- operands popped / pushed on the expression stack by an expression-level callback -/
def Call.fragNeed : Call → Nat × Nat
  | .frag p q => (p, q)
  | .exprIdentifier _ => (0, 1)
  | .quantEnd => (1, 1)
  | .dynQuantEnd => (2, 1)
  | .typePrim _ fp _ => (fp, 0)
  | .typeArrayOfSize _ => (1, 0)
  | _ => (0, 0)

/-- number of expressions above the entry level after the list; `none` if some callback reaches below the entry level -/
def fragBal : Nat → List Call → Option Nat
  | d, [] => some d
  | d, c :: cs => if d < c.fragNeed.1 then none else fragBal (d - c.fragNeed.1 + c.fragNeed.2) cs

theorem step_typeName (s : BState) (n : String) : ∃ t, step s (.typeName n) = s.pushType t := by
  dsimp only [step]
  split <;> exact ⟨_, rfl⟩

theorem frag_effect (s : BState) (c : Call) (h : c.isExprCall = true) :
    ∃ new, new.length = c.fragNeed.2 ∧ (step s c).fragments = new ++ s.fragments.drop c.fragNeed.1 := by
  cases c <;> simp only [Call.isExprCall, Bool.false_eq_true] at h
  case frag p q => exact ⟨(List.range q).map (s.nextExpr + ·), by simp [Call.fragNeed], rfl⟩
  case exprIdentifier n => exact ⟨[s.nextExpr], rfl, rfl⟩
  case quantEnd => exact ⟨[s.nextExpr], rfl, rfl⟩
  case dynQuantEnd => exact ⟨[s.nextExpr], rfl, rfl⟩
  case typeName n =>
    obtain ⟨t, ht⟩ := step_typeName s n
    rw [ht]
    exact ⟨[], rfl, rfl⟩
  all_goals exact ⟨[], rfl, rfl⟩

/-- frames popped / pushed by an expression-level callback: `Call.frameDelta` in the form of `Call.fragNeed` -/
def Call.frameNeed (c : Call) : Nat × Nat :=
  if c.frameDelta = 1 then (0, 1) else if c.frameDelta = -1 then (1, 0) else (0, 0)

theorem frameBal_cons (d : Nat) (c : Call) (cs : List Call) :
    frameBal d (c :: cs) = if d < c.frameNeed.1 then none else frameBal (d - c.frameNeed.1 + c.frameNeed.2) cs := by
  simp only [frameBal, Call.frameNeed]
  split
  · rfl
  · split
    · cases d <;> rfl
    · rfl

theorem frame_effect (s : BState) (c : Call) (h : c.isExprCall = true) :
    ∃ new, new.length = c.frameNeed.2 ∧ (step s c).frames = new ++ s.frames.drop c.frameNeed.1 := by
  cases c <;> simp only [Call.isExprCall, Bool.false_eq_true] at h
  case quantBegin n => exact ⟨[s.store.length], rfl, rfl⟩
  case dynQuantBegin n => exact ⟨[s.store.length], rfl, rfl⟩
  case quantEnd => exact ⟨[], rfl, List.drop_one.symm⟩
  case dynQuantEnd => exact ⟨[], rfl, List.drop_one.symm⟩
  case typeName n =>
    obtain ⟨t, ht⟩ := step_typeName s n
    rw [ht]
    exact ⟨[], rfl, rfl⟩
  all_goals exact ⟨[], rfl, rfl⟩

/-- A run of expression-level callbacks over a stack `π` of the state, each popping `(need c).1` and pushing `(need c).2`
    elements (`eff`), leaves everything below the entry level in place as long as the running depth `bal` never drops
    below what a callback pops: the frame stack with `frameBal` and the expression stack with `fragBal` are the two
    instances.  `eff` is asked only of states that hold what the callback pops (`typeArrayOfSize` on a short type stack
    does something else). -/
theorem run_stack {α : Type} (π : BState → List α) (need : Call → Nat × Nat) (bal : Nat → List Call → Option Nat)
    (bal_nil : ∀ d, bal d [] = some d)
    (bal_cons : ∀ d c cs, bal d (c :: cs) = if d < (need c).1 then none else bal (d - (need c).1 + (need c).2) cs)
    (eff : ∀ s c, c.isExprCall = true → (need c).1 ≤ (π s).length →
      ∃ new, new.length = (need c).2 ∧ π (step s c) = new ++ (π s).drop (need c).1)
    (t : List Call) (ht : ∀ c ∈ t, c.isExprCall = true) (s : BState) (d : Nat) (pushed base : List α)
    (hf : π s = pushed ++ base) (hb : bal pushed.length t = some d) :
    ∃ pushed', pushed'.length = d ∧ π (run s t) = pushed' ++ base := by
  induction t generalizing s pushed with
  | nil =>
    rw [bal_nil] at hb
    cases hb
    exact ⟨pushed, rfl, hf⟩
  | cons c cs ih =>
    rw [bal_cons] at hb
    split at hb
    · cases hb
    · obtain ⟨new, hnl, hne⟩ := eff s c (ht c List.mem_cons_self) (by rw [hf, List.length_append]; omega)
      refine ih (fun c' hc' => ht c' (List.mem_cons_of_mem _ hc')) (step s c) (new ++ pushed.drop (need c).1) ?_ ?_
      · rw [hne, hf, List.drop_append_of_le_length (by omega), List.append_assoc]
      · rw [List.length_append, List.length_drop, hnl, Nat.add_comm]
        exact hb

/-- declarations only accumulate: old variables / functions stay where they are, old symbols keep name and user data -/
structure Grows (s s' : BState) : Prop where
  vars : s.doc.vars <+: s'.doc.vars
  funs : s.doc.funs <+: s'.doc.funs
  locs : s.doc.locs <+: s'.doc.locs
  bps : s.doc.bps <+: s'.doc.bps
  syms : ∀ (sid : SymId) (sym : Symbol), s.syms[sid]? = some sym → ∃ sym' : Symbol, s'.syms[sid]? = some sym' ∧ sym'.name = sym.name ∧ sym'.user = sym.user ∧
    (sym.ty.isLocation = true → sym'.ty.isLocation = true)

theorem Grows.refl (s : BState) : Grows s s := ⟨List.prefix_refl _, List.prefix_refl _, List.prefix_refl _, List.prefix_refl _, fun _ sym h => ⟨sym, h, rfl, rfl, id⟩⟩

theorem Grows.trans {a b c : BState} (h1 : Grows a b) (h2 : Grows b c) : Grows a c :=
  ⟨h1.vars.trans h2.vars, h1.funs.trans h2.funs, h1.locs.trans h2.locs, h1.bps.trans h2.bps, fun sid sym h => by
    obtain ⟨s1, e1, n1, u1, l1⟩ := h1.syms sid sym h
    obtain ⟨s2, e2, n2, u2, l2⟩ := h2.syms sid s1 e1
    exact ⟨s2, e2, n2.trans n1, u2.trans u1, fun hl => l2 (l1 hl)⟩⟩

theorem Grows.of_eq {s s' : BState} (h1 : s'.syms = s.syms) (h2 : s'.doc.vars = s.doc.vars) (h3 : s'.doc.funs = s.doc.funs)
    (h4 : s'.doc.locs = s.doc.locs := by rfl) (h5 : s'.doc.bps = s.doc.bps := by rfl) : Grows s s' :=
  ⟨by rw [h2]; exact List.prefix_refl _, by rw [h3]; exact List.prefix_refl _, by rw [h4]; exact List.prefix_refl _,
   by rw [h5]; exact List.prefix_refl _, fun sid sym h => ⟨sym, by rw [h1]; exact h, rfl, rfl, id⟩⟩

theorem Grows.of_append {s s' : BState} {new : List Symbol} (hs : s'.syms = s.syms ++ new)
    (hv : s.doc.vars <+: s'.doc.vars := by exact List.prefix_refl _) (hf : s.doc.funs <+: s'.doc.funs := by exact List.prefix_refl _)
    (hl : s.doc.locs <+: s'.doc.locs := by exact List.prefix_refl _) (hb : s.doc.bps <+: s'.doc.bps := by exact List.prefix_refl _) :
    Grows s s' :=
  ⟨hv, hf, hl, hb, fun _ sym h =>
    ⟨sym, hs ▸ getElem?_append_of_some h, rfl, rfl, id⟩⟩

theorem grows_setSymTy (s : BState) (sid : SymId) (ty : STy) (hty : ty.isLocation = true) : Grows s (s.setSymTy sid ty) := by
  refine ⟨List.prefix_refl _, List.prefix_refl _, List.prefix_refl _, List.prefix_refl _, fun sid' sym h => ?_⟩
  refine ⟨_, (List.getElem?_modify ..).trans (congrArg _ h), ?_⟩
  dsimp only
  split
  · exact ⟨rfl, rfl, fun _ => hty⟩
  · exact ⟨rfl, rfl, id⟩

theorem Builds.grows {safe special : Prop} {s s' : BState} (b : Builds safe special s s') : Grows s s' := by
  induction b with
  | refl s => exact Grows.refl s
  | trans _ _ ih1 ih2 => exact ih1.trans ih2
  | quiet h1 _ _ _ _ h6 _ => exact Grows.of_eq h1 (congrArg _ h6) (congrArg _ h6) (congrArg _ h6) (congrArg _ h6)
  | addSymbol | addTemplate | addInstance | addProcess => exact .of_append rfl
  | addVar => exact .of_append rfl (hv := List.prefix_append _ _)
  | addFunction => exact .of_append rfl (hf := List.prefix_append _ _)
  | addLoc => exact .of_append rfl (hl := List.prefix_append _ _)
  | addBp => exact .of_append rfl (hb := List.prefix_append _ _)
  | setSymTy s hr hl u c => exact grows_setSymTy s _ _ rfl
  | _ => exact Grows.of_eq rfl rfl rfl

end UtapModel.Builder
