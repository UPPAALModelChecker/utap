/- Exactness of the integer-literal rule of the lexer model (`lexNum`, Model/ExprTable.lean). -/
import UtapModel.Model.ExprTable

namespace UtapModel.ExprTable

theorem digitsVal_eq (ds : List Char) : digitsVal ds = Nat.ofDigitChars 10 ds 0 := by
  simp only [digitsVal, Nat.ofDigitChars, Nat.mul_comm]

theorem digitsVal_toDigits (n : Nat) : digitsVal (Nat.toDigits 10 n) = n := by
  rw [digitsVal_eq, Nat.ofDigitChars_ten_toDigits]

theorem toDigits_head_ne_zero (n : Nat) : 0 < n → ∃ c r, Nat.toDigits 10 n = c :: r ∧ c ≠ '0' := by
  induction n using Nat.base_induction 10 (by decide) with
  | single m hm =>
    intro h
    exact ⟨m.digitChar, [], Nat.toDigits_of_lt_base hm, fun h0 => by simp only [Nat.digitChar_eq_zero] at h0; omega⟩
  | digit m k hk hm ih =>
    intro _
    obtain ⟨c, r, h1, h2⟩ := ih hm
    exact ⟨c, r ++ Nat.toDigits 10 k, by rw [← Nat.toDigits_append_toDigits (by decide) hm hk, h1]; rfl, h2⟩

theorem stripZeros_of_head {c : Char} {r : List Char} (h : c ≠ '0') : stripZeros (c :: r) = c :: r := by
  unfold stripZeros
  split
  · rename_i heq; injection heq with h1 _; exact absurd h1 h
  · rfl

theorem stripZeros_toDigits {n : Nat} (hn : 0 < n) : stripZeros (Nat.toDigits 10 n) = Nat.toDigits 10 n := by
  obtain ⟨c, r, h1, h2⟩ := toDigits_head_ne_zero n hn
  rw [h1]
  exact stripZeros_of_head h2

theorem stripZeros_zeros (k : Nat) (ds : List Char) : stripZeros (List.replicate k '0' ++ ds) = stripZeros ds := by
  induction k with
  | zero => rfl
  | succ k ih => simp only [List.replicate_succ, List.cons_append]; rw [stripZeros]; exact ih

/-- **Integer literals are represented exactly or rejected.**  For the decimal text of any natural number `n`, with any
number of leading zeros, the lexer yields the literal `n` when `n ≤ INT_MAX`, the special token for 2147483648 (which
the grammar only accepts after a minus sign, giving INT_MIN), and an overflow diagnostic otherwise. -/
theorem lexNum_exact (n k : Nat) :
    lexNum (List.replicate k '0' ++ Nat.toDigits 10 n) =
      if n ≤ 2147483647 then .nat n else if n = 2147483648 then .posNegMax else .overflow := by
  unfold lexNum
  simp only [stripZeros_zeros]
  by_cases h0 : n = 0
  · subst h0; simp [Nat.toDigits_zero, stripZeros]
  · -- the decimal representation is injective, because `digitsVal` reads it back
    have hmax : Nat.toDigits 10 n = "2147483648".toList ↔ n = 2147483648 := by
      rw [show "2147483648".toList = Nat.toDigits 10 2147483648 by decide]
      exact ⟨fun h => by simpa only [digitsVal_toDigits] using congrArg digitsVal h, fun h => h ▸ rfl⟩
    simp only [stripZeros_toDigits (Nat.pos_of_ne_zero h0), Nat.toDigits_ne_nil, if_false, hmax, digitsVal_toDigits,
      Nat.length_toDigits_le_iff (by decide : 1 < 10) (by decide : 0 < 10)]
    by_cases hle : n ≤ 2147483647
    · have h1 : n ≠ 2147483648 := by omega
      have h2 : n < 10 ^ 10 := by omega
      simp only [h1, h2, hle, and_self, if_true, if_false]
    · simp only [hle, and_false, if_false]

end UtapModel.ExprTable
