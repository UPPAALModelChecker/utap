/- The XPath printer of `XMLReader` (class `Path`) against XPath evaluation: `specLevels` is what the path holds when
   the reader stands on a node (`run_prefixTo`), and the steps printed from it select that node and no other
   (`select_specLevels`). -/
import UtapModel.Model.Pos

namespace UtapModel.Pos

mutual
theorem run_events : ∀ (n : XNode) (cur : List String) (above : Path) (es : List Ev),
    Path.run (cur :: above) (events n ++ es) = Path.run ((n.tag :: cur) :: above) es
  | .elem t cs, cur, above, es => by
    simp only [events, List.cons_append, List.append_assoc, Path.run, Path.push, XNode.tag, List.nil_append]
    rw [run_eventsL cs [] ((t :: cur) :: above) (Ev.cl :: es)]
    simp [Path.run, Path.pop]
theorem run_eventsL : ∀ (ns : List XNode) (cur : List String) (above : Path) (es : List Ev),
    Path.run (cur :: above) (eventsL ns ++ es) = Path.run (((ns.map XNode.tag).reverse ++ cur) :: above) es
  | [], cur, above, es => by simp [eventsL]
  | n :: ns, cur, above, es => by
    simp only [eventsL, List.append_assoc]
    rw [run_events n cur above (eventsL ns ++ es), run_eventsL ns (n.tag :: cur) above es]
    simp
end

/-- the levels (outermost first) the path holds when the reader stands on the node at `addr`: at each level the
    node's tag in front of the tags of its earlier siblings, most recent first -/
def specLevels : List XNode → Addr → List (List String)
  | _, [] => []
  | kids, i :: rest =>
    match kids[i]? with
    | none => []
    | some n => (n.tag :: ((kids.take i).map XNode.tag).reverse) :: specLevels n.children rest

theorem run_prefixTo : ∀ (addr : Addr) (kids : List XNode) (above : Path),
    (Path.run ([] :: above) (prefixTo kids addr)).reverse = above.reverse ++ specLevels kids addr ++ [[]] := by
  intro addr
  induction addr with
  | nil => intro kids above; simp [prefixTo, specLevels, Path.run]
  | cons i rest ih =>
    intro kids above
    cases hn : kids[i]? with
    | none => simp [prefixTo, specLevels, hn, Path.run]
    | some n =>
      simp only [prefixTo, specLevels, hn]
      rw [run_eventsL (kids.take i) [] above, Path.run, Path.push, ih]
      simp

/-- The filter over `List.range` in `selectStep` as a recursion over the children (`selectStep_range`), so that it
    splits along `++`. -/
def idxs (p : XNode → Bool) : List XNode → Nat → List Nat
  | [], _ => []
  | x :: xs, k => if p x then k :: idxs p xs (k + 1) else idxs p xs (k + 1)

theorem idxs_append (p : XNode → Bool) : ∀ (a b : List XNode) (k : Nat),
    idxs p (a ++ b) k = idxs p a k ++ idxs p b (k + a.length) := by
  intro a
  induction a with
  | nil => intro b k; simp [idxs]
  | cons x xs ih =>
    intro b k
    simp only [List.cons_append, idxs, List.length_cons, ih b (k + 1)]
    split <;> simp [Nat.add_assoc, Nat.add_comm 1]

theorem idxs_length (p : XNode → Bool) : ∀ (a : List XNode) (k : Nat), (idxs p a k).length = (a.filter p).length := by
  intro a
  induction a with
  | nil => intro k; simp [idxs]
  | cons x xs ih =>
    intro k
    simp only [idxs, List.filter_cons]
    split <;> simp [ih]

theorem idxs_eq_nil {p : XNode → Bool} {a : List XNode} (h : ∀ x ∈ a, p x = false) (k : Nat) : idxs p a k = [] :=
  List.eq_nil_of_length_eq_zero <| by
    rw [idxs_length, List.filter_eq_nil_iff.mpr fun x hx => Bool.not_eq_true _ ▸ h x hx]; rfl

theorem selectStep_range (nameOf : String → String) (kids : List XNode) (name : String) :
    ((List.range kids.length).filter fun i => (kids[i]?.map fun n => nameOf n.tag == name) == some true) =
      idxs (fun n => nameOf n.tag == name) kids 0 := by
  have gen : ∀ (l : List XNode) (k : Nat) (pre : List XNode), pre.length = k →
      ((List.range' k l.length).filter fun i => ((pre ++ l)[i]?.map fun n => nameOf n.tag == name) == some true) =
        idxs (fun n => nameOf n.tag == name) l k := by
    intro l
    induction l with
    | nil => intro k pre _; simp [idxs]
    | cons x xs ih =>
      intro k pre hk
      simp only [List.length_cons, List.range'_succ, List.filter_cons, idxs]
      have hget : (pre ++ x :: xs)[k]? = some x := by
        rw [List.getElem?_append_right (by omega)]; simp [hk]
      have hrest := ih (k + 1) (pre ++ [x]) (by simp [hk])
      simp only [List.append_assoc, List.singleton_append] at hrest
      rw [hget, hrest]
      by_cases h : (nameOf x.tag == name) = true <;> simp [h]
  have := gen kids 0 [] rfl
  simpa [List.range_eq_range'] using this

/-- what one level of the path must satisfy for its step to select exactly the intended child -/
def LevelOK (table : List TagRow) (nameOf : String → String) (kids : List XNode) (i : Nat) (n : XNode) : Prop :=
  kids[i]? = some n ∧ ∃ row, table.find? (·.tag == n.tag) = some row ∧ nameOf n.tag = row.name ∧
    match row.counted with
    | none => ∀ x ∈ kids.take i ++ kids.drop (i + 1), nameOf x.tag ≠ row.name
    | some t => t = n.tag ∧ ∀ x ∈ kids, (nameOf x.tag = row.name ↔ x.tag = n.tag)

/-- the hypothesis of the XPath theorem: every level on the way to the node is `LevelOK` -/
def PathOK (table : List TagRow) (nameOf : String → String) : List XNode → Addr → Prop
  | _, [] => True
  | kids, i :: rest => ∃ n, LevelOK table nameOf kids i n ∧ PathOK table nameOf n.children rest

theorem kids_split {kids : List XNode} {i : Nat} {n : XNode} (h : kids[i]? = some n) :
    kids = kids.take i ++ n :: kids.drop (i + 1) ∧ (kids.take i).length = i := by
  obtain ⟨hlt, rfl⟩ := List.getElem?_eq_some_iff.mp h
  exact ⟨by rw [← List.drop_eq_getElem_cons hlt, List.take_append_drop], List.length_take_of_le (Nat.le_of_lt hlt)⟩

theorem selectStep_one {table : List TagRow} {nameOf : String → String} {kids : List XNode} {i : Nat} {n : XNode}
    {row : TagRow} (hrow : table.find? (·.tag == n.tag) = some row) (hok : LevelOK table nameOf kids i n) :
    selectStep nameOf kids
      { name := row.name, index := row.counted.map (count (n.tag :: ((kids.take i).map XNode.tag).reverse)) } = [i] := by
  obtain ⟨hn, row', hrow', hname, hcnt⟩ := hok
  obtain rfl : row = row' := Option.some.inj (hrow.symm.trans hrow')
  obtain ⟨hsplit, hlen⟩ := kids_split hn
  have hidx : idxs (fun x => nameOf x.tag == row.name) kids 0 =
      idxs (fun x => nameOf x.tag == row.name) (kids.take i) 0 ++
        i :: idxs (fun x => nameOf x.tag == row.name) (kids.drop (i + 1)) (i + 1) := by
    conv => lhs; rw [hsplit]
    rw [idxs_append, idxs, if_pos (beq_iff_eq.mpr hname), Nat.zero_add, hlen]
  simp only [selectStep, selectStep_range, hidx]
  cases hc : row.counted with
  | none =>
    -- no sibling has the name: `i` is the only index
    rw [hc] at hcnt
    rw [idxs_eq_nil (fun x hx => beq_eq_false_iff_ne.mpr (hcnt x (List.mem_append_left _ hx))),
      idxs_eq_nil (fun x hx => beq_eq_false_iff_ne.mpr (hcnt x (List.mem_append_right _ hx)))]
    rfl
  | some t =>
    -- the count is one more than the number of earlier siblings with the same tag, which are those with the same name
    rw [hc] at hcnt
    obtain ⟨rfl, hiff⟩ := hcnt
    have hcount : count (n.tag :: ((kids.take i).map XNode.tag).reverse) n.tag =
        (idxs (fun x => nameOf x.tag == row.name) (kids.take i) 0).length + 1 := by
      simp only [idxs_length, count, List.filter_cons, beq_self_eq_true, ↓reduceIte, List.length_cons, List.filter_reverse,
        List.length_reverse, List.filter_map, List.length_map]
      congr 2
      refine List.filter_congr fun x hx => ?_
      rw [Function.comp_apply, Bool.eq_iff_iff, beq_iff_eq, beq_iff_eq]
      exact (hiff x (List.mem_of_mem_take hx)).symm
    rw [Option.map_some, hcount]
    simp

theorem select_specLevels (table : List TagRow) (nameOf : String → String) : ∀ (addr : Addr) (kids : List XNode),
    PathOK table nameOf kids addr →
    ∃ ss, stepsOuter table none (specLevels kids addr ++ [[]]) = some ss ∧ select nameOf kids ss = [addr] := by
  intro addr
  induction addr with
  | nil => exact fun _ _ => ⟨[], rfl, rfl⟩
  | cons i rest ih =>
    intro kids ⟨n, hl, hp⟩
    obtain ⟨ss, hss, hsel⟩ := ih n.children hp
    have hn := hl.1
    obtain ⟨row, hrow, _⟩ := hl.2
    refine ⟨⟨row.name, row.counted.map (count (n.tag :: ((kids.take i).map XNode.tag).reverse))⟩ :: ss, ?_, ?_⟩
    · simp only [specLevels, hn, List.cons_append, stepsOuter, hrow, hss]
      rfl
    · simp only [select]
      rw [selectStep_one hrow hl]
      simp [hn, hsel]

end UtapModel.Pos
