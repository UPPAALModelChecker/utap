/- A number for every string, injective, so that `==` on strings can be replaced by `==` on the numbers before a statement is handed to
   the kernel.  The kernel compares two strings byte by byte and decodes both literals anew at every comparison; the code of a literal it
   computes once in a declaration (at the price of a few comparisons) and from then on compares two numbers.  That pays where a table is
   scanned for many keys, so that each string is met many times. -/
namespace UtapModel.StrCode

/-- the bytes as digits to the base 256, least significant first, under a leading 1 (which keeps the length) -/
def codeL : List UInt8 → Nat
  | [] => 1
  | b :: r => codeL r * 256 + b.toNat

theorem codeL_pos : ∀ l, 0 < codeL l
  | [] => Nat.one_pos
  | _ :: r => Nat.add_pos_left (Nat.mul_pos (codeL_pos r) (by decide)) _

theorem codeL_inj : ∀ {l m : List UInt8}, codeL l = codeL m → l = m
  | [], [], _ => rfl
  | [], b :: r, h | b :: r, [], h => by
    have := codeL_pos r
    simp only [codeL] at h
    omega
  | b :: r, c :: s, h => by
    have := b.toNat_lt
    have := c.toNat_lt
    simp only [codeL] at h
    rw [codeL_inj (l := r) (m := s) (by omega), UInt8.toNat.inj (a := b) (b := c) (by omega)]

def code (s : String) : Nat := codeL s.toByteArray.data.toList

theorem beq_eq_code (a b : String) : (a == b) = (code a == code b) := by
  rw [Bool.eq_iff_iff, beq_iff_eq, beq_iff_eq]
  exact ⟨congrArg code, fun h => String.toByteArray_inj.mp (ByteArray.ext (Array.toList_inj.mp (codeL_inj h)))⟩

end UtapModel.StrCode
