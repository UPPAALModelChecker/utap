/- Scope invariant `Inv2` of the builder model (what the own-template clauses of C08 rest on): name resolution inside a
   template only finds that template's locations and branchpoints (`Inv2.resolve_own`).  The invariant is a property of a
   `View` of the state; it is shown for a few transformations of the view (`Inv2.symAppend` … `Inv2.setTy`), from which the
   elementary operations of `Builds` are composed (`Builds.inv2`). -/
import UtapModel.Lemmas.C08Build
namespace UtapModel.Builder

/-- parent link of a frame id: `none` = no such frame, `some none` = root -/
def parentOf (store : List Frame) (f : FrameId) : Option (Option FrameId) := (store[f]?).map (·.parent)

/-- g is reachable from f along parent links -/
inductive OnChain (store : List Frame) : FrameId → FrameId → Prop
  | refl (f : FrameId) : OnChain store f f
  | step (f p g : FrameId) : parentOf store f = some (some p) → OnChain store p g → OnChain store f g

theorem parentOf_lt {store : List Frame} {g : FrameId} {o : Option FrameId} (h : parentOf store g = some o) : g < store.length :=
  let ⟨_, hs, _⟩ := Option.map_eq_some_iff.mp h
  getElem?_lt_of_some hs

theorem parentOf_append_left {store new : List Frame} {f : FrameId} (hf : f < store.length) :
    parentOf (store ++ new) f = parentOf store f :=
  congrArg (Option.map _) (List.getElem?_append_left hf)

theorem OnChain.congr {store store' : List Frame} (h : ∀ f, parentOf store' f = parentOf store f) {f g : FrameId}
    (hc : OnChain store f g) : OnChain store' f g := by
  induction hc with
  | refl f => exact .refl f
  | step f p g hp _ ih => exact .step f p g ((h f).trans hp) ih

theorem OnChain.stays_below {store : List Frame} {n : Nat} (hpar : ∀ f p, f < n → parentOf store f = some (some p) → p < n)
    {f g : FrameId} (hc : OnChain store f g) (hf : f < n) : g < n := by
  induction hc with
  | refl f => exact hf
  | step f p g hp _ ih => exact ih (hpar f p hf hp)

theorem OnChain.of_append {store : List Frame} {new : List Frame}
    (hpar : ∀ f p, f < store.length → parentOf store f = some (some p) → p < store.length)
    {f g : FrameId} (hc : OnChain (store ++ new) f g) (hf : f < store.length) : OnChain store f g := by
  induction hc with
  | refl f => exact .refl f
  | step f p g hp _ ih =>
    have hp' := (parentOf_append_left hf).symm.trans hp
    exact .step f p g hp' (ih (hpar f p hf hp'))

theorem OnChain.to_append {store : List Frame} {new : List Frame} {f g : FrameId} (hc : OnChain store f g) :
    OnChain (store ++ new) f g := by
  induction hc with
  | refl f => exact .refl f
  | step f p g hp _ ih => exact .step f p g ((parentOf_append_left (parentOf_lt hp)).trans hp) ih

theorem Frame.lookup_mem {syms : List Symbol} {fr : Frame} {x : String} {sid : SymId} (h : fr.lookup syms x = some sid) :
    sid ∈ fr.syms := by
  unfold Frame.lookup at h
  split at h
  · cases h
  · exact List.mem_reverse.mp (List.mem_of_find?_eq_some h)

theorem resolveIn_mem (syms : List Symbol) (store : List Frame) (x : String) :
    ∀ (fuel : Nat) (f : FrameId) (sid : SymId), resolveIn syms store fuel f x = some sid →
      ∃ g fr, OnChain store f g ∧ store[g]? = some fr ∧ sid ∈ fr.syms := by
  intro fuel
  induction fuel with
  | zero => intro f sid h; cases h
  | succ n ih =>
    intro f sid h
    rw [resolveIn] at h
    split at h
    · cases h
    · rename_i fr hs
      split at h
      · rename_i hl; cases h; exact ⟨f, fr, .refl f, hs, Frame.lookup_mem hl⟩
      · split at h
        · rename_i p hp
          obtain ⟨g, fr', hc, hg, hm⟩ := ih p sid h
          exact ⟨g, fr', .step f p g ((congrArg (Option.map _) hs).trans (congrArg some hp)) hc, hg, hm⟩
        · cases h

/-- what the scope invariant looks at -/
structure View where
  syms : List Symbol
  store : List Frame
  frames : List FrameId
  params : FrameId
  cur : Option Nat
  gf : FrameId
  tframes : List FrameId     -- frame of each template
  locT : List Nat            -- owner template of each location
  bpT : List Nat             -- owner template of each branchpoint

def BState.view (s : BState) : View :=
  ⟨s.syms, s.store, s.frames, s.params, s.currentTemplate, s.doc.globalsFrame, s.doc.templates.map (·.frame),
   s.doc.locs.map (·.templ), s.doc.bps.map (·.templ)⟩

/-- the template that owns the location / branchpoint an object reference denotes -/
def View.objTempl (v : View) : Option Obj → Option Nat
  | some (.loc i) => v.locT[i]?
  | some (.bp i) => v.bpT[i]?
  | _ => none

/-- scope invariant: the frame store is a forest with decreasing parent links rooted in the global frame 0; template
    frames are distinct children of the global frame; location / branchpoint symbols live only in the frame of their own
    template; while a template is being parsed its frame is on the stack and no frame above it reaches another
    template's frame -/
structure Inv2 (v : View) : Prop where
  parentLt : ∀ (f p : FrameId), parentOf v.store f = some (some p) → p < f
  globalRoot : v.gf = 0 ∧ parentOf v.store 0 = some none
  sidsBound : ∀ (f : FrameId) (fr : Frame) (sid : SymId), v.store[f]? = some fr → sid ∈ fr.syms → sid < v.syms.length
  templFrame : ∀ (t : Nat) (f : FrameId), v.tframes[t]? = some f → f < v.store.length ∧ parentOf v.store f = some (some 0)
  templDistinct : ∀ (t t' : Nat) (f : FrameId), v.tframes[t]? = some f → v.tframes[t']? = some f → t = t'
  paramsOk : v.params < v.store.length ∧ v.params ∉ v.tframes
  locHome : ∀ (f : FrameId) (fr : Frame) (sid : SymId) (sym : Symbol), v.store[f]? = some fr → sid ∈ fr.syms →
    v.syms[sid]? = some sym → (sym.ty.isLocation ∨ sym.ty.isBranchpoint) → ∃ t, v.objTempl sym.user = some t ∧ v.tframes[t]? = some f
  curValid : ∀ (t : Nat), v.cur = some t → t < v.tframes.length
  stackBound : ∀ f ∈ v.frames, f < v.store.length
  shape : ∀ (t : Nat) (f0 : FrameId), v.cur = some t → v.tframes[t]? = some f0 →
    ∃ above below, v.frames = above ++ f0 :: below ∧
      ∀ f ∈ above, f < v.store.length ∧ ∀ g, OnChain v.store f g → g ∈ v.tframes → g = f0

theorem Inv2.templ_pos {v : View} (h : Inv2 v) {t : Nat} {f : FrameId} (hT : v.tframes[t]? = some f) : 0 < f :=
  h.parentLt _ _ (h.templFrame t f hT).2

theorem Inv2.zero_not_templ {v : View} (h : Inv2 v) : (0 : FrameId) ∉ v.tframes := by
  intro hm
  obtain ⟨t, ht⟩ := List.getElem?_of_mem hm
  exact Nat.lt_irrefl 0 (h.templ_pos ht)

theorem Inv2.chain_old {v : View} (h : Inv2 v) {new : List Frame} {f g : FrameId} (hc : OnChain (v.store ++ new) f g)
    (hf : f < v.store.length) : OnChain v.store f g ∧ g < v.store.length :=
  have hpar : ∀ f p, f < v.store.length → parentOf v.store f = some (some p) → p < v.store.length :=
    fun f p hf hp => Nat.lt_trans (h.parentLt f p hp) hf
  have hc' := OnChain.of_append hpar hc hf
  ⟨hc', hc'.stays_below hpar hf⟩

theorem Inv2.chain_of_templ {v : View} (h : Inv2 v) {t : Nat} {f g : FrameId} (hT : v.tframes[t]? = some f)
    (hc : OnChain v.store f g) : g = f ∨ g = 0 := by
  cases hc with
  | refl => exact Or.inl rfl
  | step _ p _ hp hc' =>
    cases (h.templFrame t f hT).2.symm.trans hp
    cases hc' with
    | refl => exact Or.inr rfl
    | step _ p' _ hp' _ => cases h.globalRoot.2.symm.trans hp'

theorem Inv2.top_chain {v : View} (h : Inv2 v) {t : Nat} {f0 g : FrameId} (hc : v.cur = some t) (hT : v.tframes[t]? = some f0)
    (hch : OnChain v.store (v.frames.headD 0) g) (hg : g ∈ v.tframes) : g = f0 := by
  obtain ⟨above, below, hfr, hab⟩ := h.shape t f0 hc hT
  rw [hfr] at hch
  cases above with
  | nil => exact (h.chain_of_templ hT hch).elim id fun h1 => absurd (h1 ▸ hg) h.zero_not_templ
  | cons a as => exact (hab a List.mem_cons_self).2 g hch hg

theorem Inv2.resolve_own {s : BState} (h : Inv2 s.view) {t : Nat} (hc : s.currentTemplate = some t)
    {name : String} {sid : SymId} {sym : Symbol} (hr : s.resolveSym name = some (sid, sym))
    (hk : sym.ty.isLocation ∨ sym.ty.isBranchpoint) : s.view.objTempl sym.user = some t := by
  obtain ⟨hres, hsym⟩ := resolveSym_spec hr
  obtain ⟨g, fr, hchain, hg, hm⟩ := resolveIn_mem s.syms s.store name _ _ _ hres
  obtain ⟨t', ho, hT'⟩ := h.locHome g fr sid sym hg hm hsym hk
  obtain ⟨f0, hf0⟩ : ∃ f0, s.view.tframes[t]? = some f0 := ⟨_, List.getElem?_eq_getElem (h.curValid t hc)⟩
  cases h.top_chain hc hf0 hchain (List.mem_of_getElem? hT')
  cases h.templDistinct t' t g hT' hf0
  exact ho

theorem parentOf_modify_syms (store : List Frame) (f : FrameId) (k : List SymId → List SymId) (g : FrameId) :
    parentOf (store.modify f (fun fr => { fr with syms := k fr.syms })) g = parentOf store g := by
  unfold parentOf
  rw [← List.getElem?_map, ← List.getElem?_map,
    map_modify_of_comp (fun fr : Frame => fr.parent) (f := fun fr => { fr with syms := k fr.syms }) (fun _ => rfl)]

theorem length_lt_concat {α} {l : List α} {x : α} : l.length < (l ++ [x]).length := by
  rw [List.length_append]; exact Nat.lt_succ_self _

theorem Inv2.symAppend {v : View} (h : Inv2 v) (new : List Symbol) : Inv2 { v with syms := v.syms ++ new } := by
  refine ⟨h.parentLt, h.globalRoot, ?_, h.templFrame, h.templDistinct, h.paramsOk, ?_, h.curValid, h.stackBound, h.shape⟩
  · exact fun f fr sid hf hm => lt_length_append (h.sidsBound f fr sid hf hm)
  · intro f fr sid sym hf hm hs hk
    exact h.locHome f fr sid sym hf hm ((List.getElem?_append_left (h.sidsBound f fr sid hf hm)).symm.trans hs) hk

/-- `hk`: every symbol that ends up in frame `f` is on the heap, and a location / branchpoint symbol may only end up in its
    own template's frame -/
theorem Inv2.frameSyms {v : View} (h : Inv2 v) (f : FrameId) (k : List SymId → List SymId)
    (hk : ∀ fr sid, v.store[f]? = some fr → sid ∈ k fr.syms → sid ∈ fr.syms ∨
      (sid < v.syms.length ∧ ∀ sym, v.syms[sid]? = some sym → (sym.ty.isLocation ∨ sym.ty.isBranchpoint) →
        ∃ t, v.objTempl sym.user = some t ∧ v.tframes[t]? = some f)) :
    Inv2 { v with store := v.store.modify f (fun fr => { fr with syms := k fr.syms }) } := by
  have hpar := parentOf_modify_syms v.store f k
  have hch : ∀ a b, OnChain (v.store.modify f (fun fr => { fr with syms := k fr.syms })) a b → OnChain v.store a b :=
    fun a b hc => OnChain.congr (fun g => (hpar g).symm) hc
  refine ⟨?_, ⟨h.globalRoot.1, by rw [hpar]; exact h.globalRoot.2⟩, ?_, ?_, h.templDistinct, ?_, ?_, h.curValid,
    (fun a ha => lt_length_modify (h.stackBound a ha)), ?_⟩
  · intro a p hp; rw [hpar] at hp; exact h.parentLt a p hp
  · intro g fr' sid hg hm
    rcases getElem?_modify_cases hg with ho | ⟨rfl, fr, hfr, rfl⟩
    · exact h.sidsBound g fr' sid ho hm
    · exact (hk fr sid hfr hm).elim (h.sidsBound g fr sid hfr) (·.1)
  · intro t g hT
    obtain ⟨h1, h2⟩ := h.templFrame t g hT
    exact ⟨lt_length_modify h1, by rw [hpar]; exact h2⟩
  · exact ⟨lt_length_modify h.paramsOk.1, h.paramsOk.2⟩
  · intro g fr' sid sym hg hm hs hkk
    rcases getElem?_modify_cases hg with ho | ⟨rfl, fr, hfr, rfl⟩
    · exact h.locHome g fr' sid sym ho hm hs hkk
    · exact (hk fr sid hfr hm).elim (fun h1 => h.locHome g fr sid sym hfr h1 hs hkk) (fun h1 => h1.2 sym hs hkk)
  · intro t f0 hc hT
    obtain ⟨above, below, hfr, hab⟩ := h.shape t f0 hc hT
    refine ⟨above, below, hfr, ?_⟩
    intro a ha
    obtain ⟨h1, h2⟩ := hab a ha
    exact ⟨lt_length_modify h1, fun g hg => h2 g (hch a g hg)⟩

theorem parentOf_append_new (store : List Frame) (x : Frame) : parentOf (store ++ [x]) store.length = some x.parent :=
  congrArg (Option.map _) List.getElem?_concat_length

/-- symbols any frame may hold (`locHome` ties a location or branchpoint to the frame of its template) -/
def View.plain (v : View) (l : List SymId) : Prop :=
  ∀ sid ∈ l, sid < v.syms.length ∧ ∀ sym, v.syms[sid]? = some sym → ¬ (sym.ty.isLocation ∨ sym.ty.isBranchpoint)

theorem View.plain_nil (v : View) : v.plain [] := nofun

theorem View.plain.lt {v : View} {l : List SymId} (h : v.plain l) {sid : SymId} (hm : sid ∈ l) : sid < v.syms.length :=
  (h sid hm).1

theorem View.plain.not_owned {v : View} {l : List SymId} (h : v.plain l) {sid : SymId} (hm : sid ∈ l) {sym : Symbol}
    (hs : v.syms[sid]? = some sym) : ¬ (sym.ty.isLocation ∨ sym.ty.isBranchpoint) :=
  (h sid hm).2 sym hs

/-- `frame_t::create(parent)` / `frame_t::create()` -/
theorem Inv2.storeAppend {v : View} (h : Inv2 v) (x : Frame)
    (hp : ∀ p, x.parent = some p → p < v.store.length) (hx : v.plain x.syms) :
    Inv2 { v with store := v.store ++ [x] } := by
  refine ⟨?_, ⟨h.globalRoot.1, ?_⟩, ?_, ?_, h.templDistinct, ?_, ?_, h.curValid,
    (fun a ha => lt_length_append (h.stackBound a ha)), ?_⟩
  · intro a p hpa
    rcases map_append_split hpa with ho | ⟨rfl, hx⟩
    · exact h.parentLt a p ho
    · exact hp p hx.symm
  · exact (parentOf_append_left (parentOf_lt h.globalRoot.2)).trans h.globalRoot.2
  · intro g fr sid hg hm
    rcases append_one_split hg with ⟨_, ho⟩ | ⟨_, rfl⟩
    · exact h.sidsBound g fr sid ho hm
    · exact hx.lt hm
  · intro t g hT
    obtain ⟨h1, h2⟩ := h.templFrame t g hT
    exact ⟨lt_length_append h1, (parentOf_append_left h1).trans h2⟩
  · exact ⟨lt_length_append h.paramsOk.1, h.paramsOk.2⟩
  · intro g fr sid sym hg hm hs hkk
    rcases append_one_split hg with ⟨_, ho⟩ | ⟨_, rfl⟩
    · exact h.locHome g fr sid sym ho hm hs hkk
    · exact absurd hkk (hx.not_owned hm hs)
  · intro t f0 hc hT
    obtain ⟨above, below, hfr, hab⟩ := h.shape t f0 hc hT
    refine ⟨above, below, hfr, ?_⟩
    intro a ha
    obtain ⟨h1, h2⟩ := hab a ha
    exact ⟨lt_length_append h1, fun g hg hgt => h2 g (h.chain_old hg h1).1 hgt⟩

theorem Inv2.push {v : View} (h : Inv2 v) (f : FrameId) (hb : f < v.store.length)
    (hf : ∀ t f0, v.cur = some t → v.tframes[t]? = some f0 → ∀ g, OnChain v.store f g → g ∈ v.tframes → g = f0) :
    Inv2 { v with frames := f :: v.frames } := by
  refine ⟨h.parentLt, h.globalRoot, h.sidsBound, h.templFrame, h.templDistinct, h.paramsOk, h.locHome, h.curValid,
    List.forall_mem_cons.mpr ⟨hb, h.stackBound⟩, fun t f0 hc hT => ?_⟩
  obtain ⟨above, below, hfr, hab⟩ := h.shape t f0 hc hT
  exact ⟨f :: above, below, congrArg (f :: ·) hfr, List.forall_mem_cons.mpr ⟨⟨hb, hf t f0 hc hT⟩, hab⟩⟩

/-- `hsafe` is the callers' discipline (`safeCall`, `top_not_templ`) -/
theorem Inv2.pop {v : View} (h : Inv2 v)
    (hsafe : ∀ t f0, v.cur = some t → v.tframes[t]? = some f0 → v.frames.head? ≠ some f0) :
    Inv2 { v with frames := v.frames.tail } := by
  refine ⟨h.parentLt, h.globalRoot, h.sidsBound, h.templFrame, h.templDistinct, h.paramsOk, h.locHome, h.curValid,
    (fun a ha => h.stackBound a (List.mem_of_mem_tail ha)), ?_⟩
  intro t f0 hc hT
  obtain ⟨above, below, hfr, hab⟩ := h.shape t f0 hc hT
  cases above with
  | nil => exact absurd (congrArg List.head? hfr) (hsafe t f0 hc hT)
  | cons a as => exact ⟨as, below, congrArg List.tail hfr, fun b hb => hab b (List.mem_cons_of_mem _ hb)⟩

/-- `proc_end`, `decl_dynamic_template` -/
theorem Inv2.clearCur {v : View} (h : Inv2 v) : Inv2 { v with cur := none } :=
  ⟨h.parentLt, h.globalRoot, h.sidsBound, h.templFrame, h.templDistinct, h.paramsOk, h.locHome, nofun, h.stackBound, nofun⟩

/-- `proc_begin` -/
theorem Inv2.enterTempl {v : View} (h : Inv2 v) (t : Nat) (f0 : FrameId) (hT : v.tframes[t]? = some f0) :
    Inv2 { v with cur := some t, frames := f0 :: v.frames } := by
  refine ⟨h.parentLt, h.globalRoot, h.sidsBound, h.templFrame, h.templDistinct, h.paramsOk, h.locHome, ?_, ?_, ?_⟩
  · intro t' ht'; cases ht'; exact getElem?_lt_of_some hT
  · exact List.forall_mem_cons.mpr ⟨(h.templFrame t f0 hT).1, h.stackBound⟩
  · intro t' f0' hc hT'
    cases hc
    cases hT.symm.trans hT'
    exact ⟨[], v.frames, rfl, nofun⟩

theorem Inv2.setParams {v : View} (h : Inv2 v) (p : FrameId) (hp : p < v.store.length) (hn : p ∉ v.tframes) :
    Inv2 { v with params := p } :=
  ⟨h.parentLt, h.globalRoot, h.sidsBound, h.templFrame, h.templDistinct, ⟨hp, hn⟩, h.locHome, h.curValid, h.stackBound, h.shape⟩

/-- `tf` comes with an equation: the caller has `(templates ++ [T]).map (·.frame)`, which is `v.tframes ++ [n]` only up to
    `List.map_append` -/
theorem Inv2.addTempl {v : View} (h : Inv2 v) (n : FrameId) {tf : List FrameId} (htf : tf = v.tframes ++ [n]) (hn : n < v.store.length)
    (hpar : parentOf v.store n = some (some 0)) (hfresh : n ∉ v.tframes) (hparams : n ≠ v.params)
    (hreach : ∀ a ∈ v.frames, ∀ g, OnChain v.store a g → g ≠ n) :
    Inv2 { v with tframes := tf } := by
  subst htf
  refine ⟨h.parentLt, h.globalRoot, h.sidsBound, ?_, ?_, ?_, ?_, ?_, h.stackBound, ?_⟩
  · intro t f ht
    rcases append_one_split ht with ⟨_, ho⟩ | ⟨_, rfl⟩
    · exact h.templFrame t f ho
    · exact ⟨hn, hpar⟩
  · intro t t' f ht ht'
    rcases append_one_split ht with ⟨_, ho⟩ | ⟨h1, rfl⟩ <;> rcases append_one_split ht' with ⟨_, ho'⟩ | ⟨h1', hf'⟩
    · exact h.templDistinct t t' f ho ho'
    · exact absurd (List.mem_of_getElem? (hf' ▸ ho)) hfresh
    · exact absurd (List.mem_of_getElem? ho') hfresh
    · exact h1.trans h1'.symm
  · refine ⟨h.paramsOk.1, fun hm => ?_⟩
    rcases List.mem_append.mp hm with h1 | h1
    · exact h.paramsOk.2 h1
    · exact hparams (List.mem_singleton.mp h1).symm
  · intro f fr sid sym hf hm hs hk
    obtain ⟨t, ho, hT⟩ := h.locHome f fr sid sym hf hm hs hk
    exact ⟨t, ho, getElem?_append_of_some hT⟩
  · exact fun t hc => lt_length_append (h.curValid t hc)
  · intro t f0 hc ht
    obtain ⟨above, below, hfr, hab⟩ := h.shape t f0 hc ((List.getElem?_append_left (h.curValid t hc)).symm.trans ht)
    refine ⟨above, below, hfr, fun a ha => ⟨(hab a ha).1, fun g hg hgt => ?_⟩⟩
    rcases List.mem_append.mp hgt with h3 | h3
    · exact (hab a ha).2 g hg h3
    · exact absurd (List.mem_singleton.mp h3) (hreach a (hfr ▸ List.mem_append_left _ ha) g hg)

theorem prefix_getElem? {α} {l l' : List α} (h : l <+: l') {i : Nat} {a : α} (hi : l[i]? = some a) : l'[i]? = some a := by
  obtain ⟨r, rfl⟩ := h
  exact getElem?_append_of_some hi

theorem View.objTempl_mono {v v' : View} (hl : v.locT <+: v'.locT) (hb : v.bpT <+: v'.bpT) {o : Option Obj} {t : Nat}
    (h : v.objTempl o = some t) : v'.objTempl o = some t := by
  unfold View.objTempl at h ⊢
  split at h
  · exact prefix_getElem? hl h
  · exact prefix_getElem? hb h
  · cases h

theorem Inv2.addObjT {v : View} (h : Inv2 v) {locT bpT : List Nat} (hl : v.locT <+: locT) (hb : v.bpT <+: bpT) :
    Inv2 { v with locT := locT, bpT := bpT } := by
  refine ⟨h.parentLt, h.globalRoot, h.sidsBound, h.templFrame, h.templDistinct, h.paramsOk, ?_, h.curValid, h.stackBound, h.shape⟩
  intro f fr sid sym hf hm hs hk
  obtain ⟨t', ho, hT⟩ := h.locHome f fr sid sym hf hm hs hk
  exact ⟨t', View.objTempl_mono hl hb ho, hT⟩

/-- `symbol_t::set_type` on a location symbol -/
theorem Inv2.setTy {v : View} (h : Inv2 v) {sid : SymId} {ty' : STy} {sym0 : Symbol} (h0 : v.syms[sid]? = some sym0)
    (hl0 : sym0.ty.isLocation) :
    Inv2 { v with syms := v.syms.modify sid (fun sym => { sym with ty := ty' }) } := by
  refine ⟨h.parentLt, h.globalRoot, ?_, h.templFrame, h.templDistinct, h.paramsOk, ?_, h.curValid, h.stackBound, h.shape⟩
  · exact fun f fr sid' hf hm => lt_length_modify (h.sidsBound f fr sid' hf hm)
  · intro f fr sid' sym hf hm hs hk
    rcases getElem?_modify_cases hs with ho | ⟨rfl, a, ha, rfl⟩
    · exact h.locHome f fr sid' sym hf hm ho hk
    · cases h0.symm.trans ha
      exact h.locHome f fr sid' sym0 hf hm h0 (Or.inl hl0)

/-- `frame_t::add_symbol` -/
theorem Inv2.addSymbol {v : View} (h : Inv2 v) (f : FrameId) (new : Symbol)
    (hk : (new.ty.isLocation ∨ new.ty.isBranchpoint) → ∃ t, v.objTempl new.user = some t ∧ v.tframes[t]? = some f) :
    Inv2 { v with syms := v.syms ++ [new], store := addToFrame v.store f [v.syms.length] } := by
  refine (h.symAppend [new]).frameSyms f (· ++ [v.syms.length]) fun fr sid _ hm => ?_
  refine (List.mem_append.mp hm).imp_right fun h3 => ?_
  cases List.mem_singleton.mp h3
  refine ⟨length_lt_concat, fun sym hs hkk => ?_⟩
  cases List.getElem?_concat_length.symm.trans hs
  exact hk hkk

theorem plain_func : STy.func.plain := ⟨rfl, rfl, fun _ => ⟨nofun, nofun⟩⟩
theorem plain_inst (a : Nat) : (STy.inst a).isLocation = false ∧ (STy.inst a).isBranchpoint = false := ⟨rfl, rfl⟩

theorem Inv2.addSymbol_nonloc {v : View} (h : Inv2 v) (f : FrameId) {new : Symbol}
    (hl : new.ty.isLocation = false) (hb : new.ty.isBranchpoint = false) :
    Inv2 { v with syms := v.syms ++ [new], store := addToFrame v.store f [v.syms.length] } :=
  h.addSymbol f new (by rw [hl, hb]; exact nofun)

theorem view_docOnly {s : BState} {d : Doc} (hg : d.globalsFrame = s.doc.globalsFrame)
    (ht : d.templates.map (·.frame) = s.doc.templates.map (·.frame)) (hl : d.locs = s.doc.locs) (hb : d.bps = s.doc.bps) :
    ({ s with doc := d } : BState).view = s.view := by
  simp [BState.view, hg, ht, hl, hb]

theorem templ_frame_view {s : BState} {t : Nat} {T : Templ} (hT : s.doc.templates[t]? = some T) : s.view.tframes[t]? = some T.frame :=
  List.getElem?_map.trans (congrArg (Option.map _) hT)

/-- a new location / branchpoint of template t: its symbol goes to the frame of t -/
theorem inv2_addOwned {s : BState} (h : Inv2 s.view) {t : Nat} {T : Templ} (hT : s.doc.templates[t]? = some T) (n : String) (ty : STy)
    (o : Obj) {locs : List Loc} {bps : List Bp}
    (hl : s.doc.locs.map (·.templ) <+: locs.map (·.templ)) (hb : s.doc.bps.map (·.templ) <+: bps.map (·.templ))
    (ho : ({ s with doc := { s.doc with locs := locs, bps := bps } } : BState).view.objTempl (some o) = some t) :
    Inv2 ({ (s.addSymbol T.frame n ty (some o)).1 with doc := { s.doc with locs := locs, bps := bps } } : BState).view :=
  (h.addObjT hl hb).addSymbol T.frame ⟨n, ty, some o⟩ fun _ => ⟨t, ho, templ_frame_view hT⟩

theorem Inv2.store_pos {v : View} (h : Inv2 v) : 0 < v.store.length := parentOf_lt h.globalRoot.2

theorem Inv2.top_lt {v : View} (h : Inv2 v) : v.frames.headD 0 < v.store.length := by
  cases hf : v.frames with
  | nil => exact h.store_pos
  | cons a as => exact h.stackBound a (hf ▸ List.mem_cons_self)

theorem Inv2.tframes_lt {v : View} (h : Inv2 v) {g : FrameId} (hg : g ∈ v.tframes) : g < v.store.length := by
  obtain ⟨t, ht⟩ := List.getElem?_of_mem hg
  exact (h.templFrame t g ht).1

theorem Inv2.params_plain {v : View} (h : Inv2 v) : v.plain (v.store.getD v.params ⟨none, []⟩).syms := by
  intro sid hm
  have hp := h.paramsOk.1
  have hfr : v.store[v.params]? = some (v.store.getD v.params ⟨none, []⟩) := by
    rw [List.getD_eq_getElem?_getD, List.getElem?_eq_getElem hp]; simp
  refine ⟨h.sidsBound _ _ sid hfr hm, ?_⟩
  intro sym hs hk
  obtain ⟨t, _, hT⟩ := h.locHome _ _ sid sym hfr hm hs hk
  exact h.paramsOk.2 (List.mem_of_getElem? hT)

theorem inv2_pushChild {s : BState} (h : Inv2 s.view) (l : List SymId) (hl : s.view.plain l) : Inv2 (s.pushChild l).view := by
  have htop : s.top < s.store.length := h.top_lt
  have h1 := h.storeAppend ⟨some s.top, l⟩ (by intro p hp; cases hp; exact htop) hl
  refine h1.push s.store.length length_lt_concat ?_
  intro t f0 hc hT g hg hgt
  have hgl : g < s.store.length := h.tframes_lt hgt
  cases hg with
  | refl => exact absurd hgl (Nat.lt_irrefl _)
  | step _ p _ hp hc' =>
    cases (parentOf_append_new s.store ⟨some s.top, l⟩).symm.trans hp
    exact h.top_chain hc hT (h.chain_old hc' htop).1 hgt

theorem inv2_resetParams {s : BState} (h : Inv2 s.view) : Inv2 s.resetParams.view := by
  have h1 := h.storeAppend ⟨none, []⟩ nofun (View.plain_nil _)
  exact h1.setParams s.store.length length_lt_concat fun hm => Nat.lt_irrefl _ (h.tframes_lt hm)

theorem inv2_addTemplate {s : BState} {n : String} {a b : Bool} (h : Inv2 s.view) : Inv2 (s.addTemplate n a b).1.view := by
  have hgf : s.doc.globalsFrame = 0 := h.globalRoot.1
  have h1 := h.storeAppend ⟨some s.doc.globalsFrame, (s.frameD s.params).syms⟩
    (by intro p hp; cases hp; rw [hgf]; exact h.store_pos) h.params_plain
  have h2 := h1.addTempl s.store.length
    (tf := (s.doc.templates ++ [mkTempl s.syms.length (s.frameD s.params).syms s.doc.templates.length s.store.length a b]).map (·.frame))
    List.map_append length_lt_concat ((parentOf_append_new ..).trans (congrArg (some ∘ some) hgf))
    (fun hm => Nat.lt_irrefl _ (h.tframes_lt hm)) (Nat.ne_of_gt h.paramsOk.1)
    (fun f hf g hg he => Nat.lt_irrefl _ (he ▸ (h.chain_old hg (h.stackBound f hf)).2))
  exact h2.addSymbol_nonloc _ (by cases a <;> rfl) (by cases a <;> rfl)

theorem inv2_moveParams {s : BState} (h : Inv2 s.view) : Inv2 s.moveParams.view := by
  have hps := h.params_plain
  have h1 := h.frameSyms s.top (· ++ (s.frameD s.params).syms) (by
    intro fr sid _ hm
    rcases List.mem_append.mp hm with h3 | h3
    · exact Or.inl h3
    · exact .inr ⟨hps.lt h3, fun sym hs hk => absurd hk (hps.not_owned h3 hs)⟩)
  exact h1.frameSyms s.params (fun _ => []) nofun

/-- the callers' discipline at a pop, in terms of the view -/
theorem top_not_templ {s : BState}
    (h : ∀ t T, s.currentTemplate = some t → s.doc.templates[t]? = some T → s.frames.head? ≠ some T.frame) :
    ∀ t f0, s.view.cur = some t → s.view.tframes[t]? = some f0 → s.view.frames.head? ≠ some f0 := by
  intro t f0 hc hT
  obtain ⟨T, hd, rfl⟩ := Option.map_eq_some_iff.mp (List.getElem?_map.symm.trans hT)
  exact h t T hc hd

/-- what `safeCall` gives for a popping callback -/
theorem safe_pop_spec {s : BState}
    (hs : (decide (s.frames.length ≥ 2) && (match s.currentTemplate.bind (fun t => s.doc.templates[t]?) with
        | some T => s.top != T.frame
        | none => true)) = true) :
    ∀ t f0, s.view.cur = some t → s.view.tframes[t]? = some f0 → s.view.frames.head? ≠ some f0 :=
  top_not_templ (safeCall_pop hs)

theorem inv2_pop {s : BState} (h : Inv2 s.view)
    (hs : (decide (s.frames.length ≥ 2) && (match s.currentTemplate.bind (fun t => s.doc.templates[t]?) with
        | some T => s.top != T.frame
        | none => true)) = true) : Inv2 s.popFrame.view :=
  h.pop (safe_pop_spec hs)

theorem view_eq {s s' : BState} (h1 : s'.syms = s.syms) (h2 : s'.store = s.store) (h3 : s'.frames = s.frames)
    (h4 : s'.params = s.params) (h5 : s'.currentTemplate = s.currentTemplate) (h6 : s'.doc = s.doc) : s'.view = s.view := by
  simp only [BState.view, h1, h2, h3, h4, h5, h6]

theorem inv2_modifyTempl {s : BState} (h : Inv2 s.view) (t : Nat) (f : Templ → Templ) (hf : ∀ T, (f T).frame = T.frame) :
    Inv2 ({ s with doc := s.doc.modifyTempl t f } : BState).view :=
  (view_docOnly (d := s.doc.modifyTempl t f) rfl (map_modify_of_comp _ hf) rfl rfl).symm ▸ h

theorem Inv2_init : Inv2 BState.init.view := by
  refine ⟨?_, ⟨rfl, rfl⟩, ?_, ?_, ?_, ⟨Nat.lt_succ_self 1, nofun⟩, ?_, ?_, ?_, ?_⟩
  · intro f p hp
    rcases f with _ | _ | f <;> cases hp
  · intro f fr sid hf hm
    rcases f with _ | _ | f <;> cases hf <;> cases hm
  · intro t f ht; cases ht
  · intro t t' f ht; cases ht
  · intro f fr sid sym _ _ hs; cases hs
  · intro t ht; cases ht
  · intro f hf
    cases hf with
    | head => exact Nat.zero_lt_succ _
    | tail _ h => cases h
  · intro t f0 hc; cases hc

theorem Builds.inv2 {safe special : Prop} {s s' : BState} (b : Builds safe special s s') (hs : safe) (h : Inv2 s.view) :
    Inv2 s'.view := by
  induction b with
  | refl => exact h
  | trans _ _ ih1 ih2 => exact ih2 (ih1 h)
  | quiet h1 h2 h3 h4 h5 h6 _ => rw [view_eq h1 h2 h3 h4 h5 h6]; exact h
  | addSymbol s f n hp => exact h.addSymbol_nonloc f hp.1 hp.2.1
  | pushChild s hl =>
    refine inv2_pushChild h _ ?_
    rcases hl with rfl | rfl
    · exact View.plain_nil _
    · exact h.params_plain
  | pop s hp => exact h.pop (top_not_templ (hp hs))
  | moveParams s => exact inv2_moveParams h
  | paramsAside s =>
    -- the frame popped is the one just created: it lies above every template's frame
    have h3 := inv2_moveParams (inv2_pushChild h [] (View.plain_nil _))
    refine h3.pop ?_
    intro t f0 _ hT hhead
    have hl : f0 < s.store.length := h.tframes_lt (List.mem_of_getElem? hT)
    cases hhead
    exact Nat.lt_irrefl _ hl
  | resetParams s => exact inv2_resetParams h
  | leave s _ => exact h.clearCur
  | @enter s t ht _ =>
    obtain ⟨T, hT⟩ : ∃ T, s.doc.templates[t]? = some T := ⟨_, List.getElem?_eq_getElem ht⟩
    have hfr : s.declFrame (.templ t) = T.frame := by simp only [BState.declFrame, hT]
    rw [hfr]
    exact h.enterTempl t T.frame (templ_frame_view hT)
  | addTemplate s n a b _ => exact inv2_addTemplate h
  | defineTempl s t => exact inv2_modifyTempl h t _ (fun _ => rfl)
  | @setInit s t _ _ _ _ _ _ _ => exact inv2_modifyTempl h t _ (fun _ => rfl)
  | addVar s fr n ty owner => exact h.addSymbol_nonloc fr rfl rfl
  | addFunction s n => exact h.addSymbol_nonloc _ rfl rfl
  | addLoc s hT n a b =>
    exact inv2_addOwned h hT n _ _ (List.map_append ▸ List.prefix_append _ _) (List.prefix_refl _)
      (List.getElem?_map.trans (congrArg (Option.map _) List.getElem?_concat_length))
  | addBp s hT n =>
    exact inv2_addOwned h hT n _ _ (List.prefix_refl _) (List.map_append ▸ List.prefix_append _ _)
      (List.getElem?_map.trans (congrArg (Option.map _) List.getElem?_concat_length))
  | setSymTy s hr hl u c => exact h.setTy (resolveSym_sym hr) hl
  | @addEdge s t _ _ _ _ _ _ _ c fr g u p => exact inv2_modifyTempl h t _ (fun _ => rfl)
  | relabel s t i hg => exact inv2_modifyTempl h t _ (fun _ => rfl)
  | addInstance s hr lsc hty hold hlen name ps =>
    exact h.addSymbol_nonloc _ (by cases lsc <;> rfl) (by cases lsc <;> rfl)
  | addProcess s hr hty hold =>
    refine h.addSymbol_nonloc _ ?_ ?_ <;> (dsimp only; split <;> rfl)

end UtapModel.Builder
