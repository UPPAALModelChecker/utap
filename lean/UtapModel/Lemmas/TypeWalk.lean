/- Lemmas for Model/TypeWalk.lean (properties C11, C13): the walk of `checkType` reaches every expression of a type,
   `strip_array` reaches the base type.  General in the configuration; the instances for the generated tables are in
   Props/C11.lean and Props/C13.lean. -/
import UtapModel.Model.TypeWalk
namespace UtapModel.TypeWalk

theorem visits_eq_exprs (c : WalkCfg) (hc : c.Complete) (t : WTy) : t.wellKinded = true → visits c t = t.exprs := by
  obtain ⟨hwrap, hrange, harray, hrecord⟩ := hc
  induction t using WTy.rec (motive_2 := fun ts => wellKindedL ts = true → visitsL c ts = exprsL ts) with
  | wrap k t ih =>
    intro hw
    simp only [WTy.wellKinded, Bool.and_eq_true, List.contains_iff_mem] at hw
    simp only [visits, hwrap k hw.1, if_true, WTy.exprs, ih hw.2]
  | array s e ihs ihe =>
    intro hw
    simp only [WTy.wellKinded, Bool.and_eq_true] at hw
    simp only [visits, harray, if_true, WTy.exprs, ihs hw.1, ihe hw.2]
  | leaf | range => simp [visits, WTy.exprs, hrange]
  | record fs ih => simpa [visits, WTy.exprs, WTy.wellKinded, hrecord] using ih
  | nil => rfl
  | cons t ts iht ihts =>
    rename_i hw
    simp only [wellKindedL, Bool.and_eq_true] at hw
    simp only [visitsL, exprsL, iht hw.1, ihts hw.2]

theorem visits_complete (c : WalkCfg) (hc : c.Complete) (t : WTy) (hw : t.wellKinded = true) : ∀ x ∈ t.exprs, x ∈ visits c t :=
  fun _ hx => visits_eq_exprs c hc t hw ▸ hx

theorem visitsL_complete (c : WalkCfg) (hc : c.Complete) : ∀ ts : List WTy, wellKindedL ts = true → ∀ x ∈ exprsL ts, x ∈ visitsL c ts := by
  intro ts hw x hx
  -- a list of types is walked as the fields of a record are
  have h := visits_complete c hc (.record ts) hw x hx
  rwa [visits, if_pos hc.2.2.2] at h

/-- Typedef names and prefixes BETWEEN two array levels are stripped as well, so `strip_array` never stops at an array. -/
theorem stripArray_base (sk : Kind → Bool) (t : WTy) :
    isArrayType sk (stripArray sk t) = false ∧ strip sk (stripArray sk t) = stripArray sk t := by
  fun_induction stripArray sk t <;> simp [isArrayType, strip, *]

end UtapModel.TypeWalk
