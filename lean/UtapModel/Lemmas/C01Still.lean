/- C01: productions that pass `lbProd` for a trivial reason.  On most stacks most productions are *still*: no symbol
   moves the height, none reads deeper than the left-hand side allows, and the left-hand side promises no growth.
   For those the symbolic run of `checkItems` only ever sees forms without a negative coefficient, so every guard holds
   (`lbProd_of_still`).  Deciding stillness needs table lookups and comparisons only, which is what makes the kernel
   evaluation of the pinned exception set affordable (`goodFast`, Lemmas/C01Table.lean): the symbolic run is left
   for the productions that move a stack. -/
import UtapModel.Model.C01Stack
namespace UtapModel.C01

theorem addV_nil_right (a : List Int) : addV a [] = a := by cases a <;> rfl

theorem addV_all_nonneg {a b : List Int} (ha : a.all (fun x => decide (0 ≤ x)) = true)
    (hb : b.all (fun x => decide (0 ≤ x)) = true) : (addV a b).all (fun x => decide (0 ≤ x)) = true := by
  fun_induction addV a b with
  | case1 b => exact hb
  | case2 a _ => exact ha
  | case3 x a y b ih =>
    simp only [List.all_cons, Bool.and_eq_true, decide_eq_true_eq] at ha hb ⊢
    exact ⟨by omega, ih ha.2 hb.2⟩

theorem nonneg_iff {a : Lin} : a.nonneg = true ↔ 0 ≤ a.c ∧ a.v.all (fun x => decide (0 ≤ x)) = true := by
  simp only [Lin.nonneg, Bool.and_eq_true, decide_eq_true_eq]

theorem nonneg_add {a b : Lin} (ha : a.nonneg = true) (hb : b.nonneg = true) : (a.add b).nonneg = true := by
  rw [nonneg_iff] at ha hb ⊢
  exact ⟨Int.add_nonneg ha.1 hb.1, addV_all_nonneg ha.2 hb.2⟩

theorem nonneg_const (n : Nat) : (Lin.const n).nonneg = true := by
  simp [Lin.const, Lin.nonneg]

theorem nonneg_sub_const {f : Lin} {k : Int} (hf : f.nonneg = true) (h : k ≤ f.c) : (f.sub (Lin.const k)).nonneg = true := by
  rw [nonneg_iff] at hf ⊢
  simp only [Lin.sub, Lin.add, Lin.scale, Lin.const, List.map_nil, addV_nil_right]
  exact ⟨by omega, hf.2⟩

/-- the shape of the guards of `stepItem` and `stepCall`: `f + n - k` with `k ≤ n` -/
theorem nonneg_window {f : Lin} {k : Int} {n : Nat} (hf : f.nonneg = true) (h : k ≤ n) :
    ((f.add (Lin.const n)).sub (Lin.const k)).nonneg = true :=
  nonneg_sub_const (nonneg_add hf (nonneg_const n)) (Int.le_trans h (Int.le_add_of_nonneg_left (nonneg_iff.mp hf).1))

section still
variable {CB NT : Type} (sig : NT → Sig) (eff : CB → Eff)

/-- an effect that leaves the height alone on either outcome, whatever the count -/
def quietEff (e : Eff) : Bool :=
  decide (e.needN = 0) && decide (e.d0 = 0) && decide (e.dN = 0) && decide (e.t0 = 0) && decide (e.tN = 0) &&
    !e.reset && !e.bump

/-- a signature that never dips and promises (and allows) no change -/
def quietSig (b : Sig) : Bool := decide (b.dip = 0) && decide (b.lo = some (0, 0))

-- `quietEff (eff cb)` and `quietSig (sig B)` are closed terms at every occurrence of `cb` and `B` in the table, so the
-- kernel evaluates each once per stack; only the comparison with `needA` is paid per occurrence
def stillCall (needA : Nat) (c : Call CB) : Bool :=
  Nat.ble (eff c.cb).need0 needA && quietEff (eff c.cb) && (match c.arg with | .cnt _ => false | _ => true)

def stillItem (needA : Nat) : Item CB NT → Bool
  | .tok | .free => true
  | .act cs => cs.all (stillCall eff needA)
  | .nt B | .pnt B => Nat.ble (sig B).need needA && quietSig (sig B)

def stillProd (p : Prod CB NT) : Bool :=
  let s := sig p.lhs
  p.attr.nonneg && decide (s.dip ≤ s.need) &&
    (match s.lo with | none => true | some (c0, c1) => decide (c0 ≤ 0) && decide (c1 = 0)) &&
    p.items.all (stillItem sig eff s.need)

/-- the invariant of the symbolic run over still symbols -/
def RelNonneg (o : Option AState) : Prop := ∃ g, o = some (.rel g) ∧ g.nonneg = true

variable {sig eff}

theorem stepCall_still {needA : Nat} {f : Lin} {c : Call CB} (hc : stillCall eff needA c = true)
    (hf : f.nonneg = true) : RelNonneg (stepCall eff needA (.rel f) c) := by
  simp only [stillCall, quietEff, Bool.and_eq_true, decide_eq_true_eq, Bool.not_eq_true', Nat.ble_eq] at hc
  obtain ⟨⟨h0, ⟨⟨⟨⟨⟨hN, hd0⟩, hdN⟩, ht0⟩, htN⟩, hr⟩, hb⟩, harg⟩ := hc
  have hn : argLin c.arg = Lin.zero ∧ argOk (eff c.cb) c.arg = true := by
    cases hca : c.arg with
    | cnt l => simp [hca] at harg
    | none => exact ⟨rfl, rfl⟩
    | types => exact ⟨rfl, by simp [argOk, hN, hdN, htN]⟩
  have hneed : ((f.add (Lin.const needA)).sub
      ((Lin.const (eff c.cb).need0).add (Lin.zero.scale (eff c.cb).needN))).nonneg = true :=
    nonneg_window (k := ((eff c.cb).need0 : Int) + ((eff c.cb).needN : Int) * 0) hf (by omega)
  -- with all deltas 0 the normal and the alternative outcome are the same form, whichever way `canThrow` is
  have hz : (((Lin.const 0).add (Lin.scale 0 Lin.zero)).sub ((Lin.const 0).add (Lin.scale 0 Lin.zero))).nonneg = true := by
    decide
  simp only [stepCall, hn.1, hn.2, hneed, hr, hb, hd0, hdN, ht0, htN, hz, Bool.not_true, Bool.false_eq_true, ↓reduceIte,
    ite_self]
  exact ⟨_, rfl, nonneg_add hf (by decide)⟩

theorem stepCalls_still {needA : Nat} {cs : List (Call CB)} (hcs : cs.all (stillCall eff needA) = true) {f : Lin}
    (hf : f.nonneg = true) : RelNonneg (stepCalls eff needA cs (.rel f)) := by
  induction cs generalizing f with
  | nil => exact ⟨f, rfl, hf⟩
  | cons c cs ih =>
    rw [List.all_cons, Bool.and_eq_true] at hcs
    obtain ⟨g, hg, hgn⟩ := stepCall_still hcs.1 hf
    simpa only [stepCalls, hg, Option.bind_some] using ih hcs.2 hgn

theorem stepItem_still {needA dipA pos : Nat} {f : Lin} {it : Item CB NT} (hit : stillItem sig eff needA it = true)
    (hf : f.nonneg = true) : RelNonneg (stepItem sig eff needA dipA pos (.rel f) it) := by
  have hguard : ∀ {B : NT}, (sig B).need ≤ needA → (sig B).dip = 0 →
      (((f.add (Lin.const needA)).sub (Lin.const (sig B).need)).nonneg &&
        ((f.add (Lin.const dipA)).sub (Lin.const (sig B).dip)).nonneg) = true := by
    intro B hn hd
    rw [hd, nonneg_window hf (Int.ofNat_le.mpr hn), nonneg_window hf (Int.ofNat_le.mpr dipA.zero_le)]
    rfl
  cases it with
  | tok => exact ⟨f, rfl, hf⟩
  | free => exact ⟨f, rfl, hf⟩
  | act cs => exact stepCalls_still hit hf
  | nt B =>
    simp only [stillItem, quietSig, Bool.and_eq_true, decide_eq_true_eq, Nat.ble_eq] at hit
    simp only [stepItem, hguard hit.1 hit.2.1, hit.2.2, Bool.not_true, Bool.false_eq_true, ↓reduceIte]
    exact ⟨_, rfl, nonneg_add (nonneg_add hf (by decide)) (by simp [Lin.unit, Lin.nonneg])⟩
  | pnt B =>
    simp only [stillItem, quietSig, Bool.and_eq_true, decide_eq_true_eq, Nat.ble_eq] at hit
    simp only [stepItem, hguard hit.1 hit.2.1, hit.2.2, Bool.not_true, Bool.false_eq_true, ↓reduceIte]
    exact ⟨_, rfl, nonneg_sub_const hf (by simpa [hit.2.1] using (nonneg_iff.mp hf).1)⟩

theorem checkItems_still {needA dipA : Nat} {loA : Option (Int × Int)} {items : List (Item CB NT)}
    (hit : items.all (stillItem sig eff needA) = true) {pos : Nat} {f : Lin} (hf : f.nonneg = true) :
    RelNonneg (checkItems sig eff needA dipA loA pos items (.rel f)) := by
  induction items generalizing pos f with
  | nil => exact ⟨f, if_pos (nonneg_add hf (nonneg_const dipA)), hf⟩
  | cons it rest ih =>
    rw [List.all_cons, Bool.and_eq_true] at hit
    obtain ⟨g, hg, hgn⟩ := stepItem_still (dipA := dipA) (pos := pos) hit.1 hf
    have hok : okState dipA loA (.rel f) = true := nonneg_add hf (nonneg_const dipA)
    simpa only [checkItems, hok, ↓reduceIte, hg, Option.bind_some] using ih hit.2 hgn

theorem lbProd_of_still {p : Prod CB NT} (h : stillProd sig eff p = true) : lbProd sig eff p = true := by
  simp only [stillProd, Bool.and_eq_true, decide_eq_true_eq] at h
  obtain ⟨⟨⟨hattr, hdip⟩, hlo⟩, hitems⟩ := h
  obtain ⟨g, hg, hgn⟩ := checkItems_still (dipA := (sig p.lhs).dip) (loA := (sig p.lhs).lo) hitems (pos := 0)
    (f := Lin.zero) (by decide)
  simp only [lbProd, hattr, hdip, decide_true, Bool.and_self, hg, Bool.true_and]
  cases hl : (sig p.lhs).lo with
  | none => rfl
  | some cc =>
    obtain ⟨c0, c1⟩ := cc
    simp only [hl, Bool.and_eq_true, decide_eq_true_eq] at hlo
    simp only [finalOk, hlo.2]
    exact nonneg_add (nonneg_sub_const hgn (Int.le_trans hlo.1 (nonneg_iff.mp hgn).1)) (by simp [Lin.scale, Lin.nonneg])

variable (sig eff) in
theorem still_or_lbProd (p : Prod CB NT) : (stillProd sig eff p || lbProd sig eff p) = lbProd sig eff p := by
  cases h : stillProd sig eff p
  · rfl
  · rw [lbProd_of_still h]; rfl

end still

end UtapModel.C01
