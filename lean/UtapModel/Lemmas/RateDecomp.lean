/- Helper lemmas for the invariant decomposition (Props/C04Rate.lean): the state after `decompose pinned`, in closed form. -/
import UtapModel.Model.RateDecomp

namespace UtapModel.RateDecomp

/-- the conjuncts that are kept: every leaf of the conjunction spine except the cost rates, by name, in order -/
def kept (e : WR) : List Conj := ((spine e).filter (fun l => !isCost l)).map (fun l => Conj.sub (name l))

def lastCost : List Nat → Option Nat → Option Nat
  | [], c => c
  | n :: r, _ => lastCost r (some n)

theorem lastCost_append (a b : List Nat) (c : Option Nat) : lastCost (a ++ b) c = lastCost b (lastCost a c) := by
  induction a generalizing c with
  | nil => rfl
  | cons x r ih => simp [lastCost, ih]

theorem kept_and (a b : WR) : kept (.and a b) = kept a ++ kept b := by
  simp only [kept, spine, List.filter_append, List.map_append]

theorem kept_all (b : WR) (n : Nat) : kept (.all b n) = [.sub n] := rfl

/-- **closed form**: what `RateDecomposer::decompose` leaves behind, for every expression, from every state, inside or outside a
    quantifier -/
theorem decompose_closed (e : WR) (inforall : Bool) (a : Acc) :
    decompose pinned e inforall a =
      { conj := a.conj ++ (if inforall then [] else kept e),
        cost := lastCost (costs e) a.cost,
        costCount := a.costCount + (costs e).length,
        clockRates := a.clockRates || hasClockRate e,
        strict := a.strict || hasStrict e } := by
  induction e generalizing inforall a with
  | inv s n =>
    cases s <;> cases inforall <;> simp [decompose, pinned, kept, spine, isCost, name, costs, lastCost, hasClockRate, hasStrict]
  | and x y ihx ihy =>
    have h1 : pinned.andLeftPasses = true := rfl
    have h2 : pinned.andRightPasses = true := rfl
    simp only [decompose, h1, h2, if_true]
    rw [ihx, ihy]
    cases inforall <;>
      simp [kept_and, costs, lastCost_append, hasClockRate, hasStrict, Nat.add_assoc, Bool.or_assoc, List.append_assoc]
  | rate c n =>
    cases c <;> cases inforall <;> simp [decompose, pinned, kept, spine, isCost, name, costs, lastCost, hasClockRate, hasStrict]
  | all b n ih =>
    have h1 : pinned.allBodyInForall = true := rfl
    have h2 : pinned.allRecordsWhole = true := rfl
    have h3 : pinned.allGuarded = true := rfl
    simp only [decompose, h1, h2, h3, if_true]
    rw [ih]
    cases inforall <;> simp [kept_all, costs, hasClockRate, hasStrict]

theorem stored_pinned (e : WR) :
    stored pinned e = { conj := .one :: kept e, cost := lastCost (costs e) none, costCount := (costs e).length,
                        clockRates := hasClockRate e, strict := hasStrict e } := by
  have h : init pinned = { conj := [.one], cost := none, costCount := 0, clockRates := false, strict := false } := rfl
  unfold stored
  rw [decompose_closed, h]
  simp

end UtapModel.RateDecomp
