/- Lemmas for Props/C10.lean: the finite tables (complete over all 39 type kinds, kernel evaluation of the regenerated
   clause lists) and the structural inductions over formula trees that consume them. -/
import UtapModel.Model.Formula
import UtapModel.Lemmas.TypeBasics
namespace UtapModel.C10
open UtapModel.Types UtapModel.TypeClauses UtapModel.Formula UtapModel.TypeBasics

instance (p : Side → Prop) [DecidablePred p] : Decidable (∀ s, p s) :=
  decidable_of_iff (p .INT ∧ p .BOOL ∧ p .CLOCK ∧ p .DIFF)
    ⟨fun ⟨a, b, c, d⟩ s => by cases s <;> assumption, fun h => ⟨h _, h _, h _, h _⟩⟩

instance (p : Cmp → Prop) [DecidablePred p] : Decidable (∀ s, p s) :=
  decidable_of_iff (p .LT ∧ p .LE ∧ p .EQ ∧ p .NEQ ∧ p .GE ∧ p .GT)
    ⟨fun ⟨a, b, c, d, e, f⟩ s => by cases s <;> assumption, fun h => ⟨h _, h _, h _, h _, h _, h _⟩⟩

def intK (k : TK) : Bool := ty_is_integral (.prim k)
/-- kinds a boolean formula can be given by the checker -/
def formK (k : TK) : Bool := ty_is_formula (.prim k) || k == .INVARIANT_WR

/-- The two roles a formula is checked in: invariant of a location (`true`, the test of visitLocation) and guard of an
    edge (`false`, the test of visitEdge).  `roleK r` are the kinds accepted in role `r`. -/
def roleK : Bool → TK → Bool
  | true, k => invariantAccepted (.prim k)
  | false, k => guardAccepted (.prim k)

def accepts : Bool → Form → Bool
  | true => acceptsAsInvariant
  | false => acceptsAsGuard

theorem accepts_iff (r : Bool) (f : Form) : accepts r f = true ↔ ∃ k, classify f = some k ∧ roleK r k = true := by
  cases r <;> simp only [accepts, acceptsAsInvariant, acceptsAsGuard, roleK] <;> cases classify f <;> simp

theorem leaf_table : ∀ (op : Cmp) (l r : Side), leafOk l r = true → leafExceptions.contains (op, l, r) = false →
    ∀ k ∈ binK op.bin l.tk r.tk, formK k = true ∧ (intK k = true → (l.clockFree && r.clockFree) = true) := by
  decide +kernel

theorem and_table : ∀ ka kb : TK, ∀ k ∈ binK .AND ka kb,
    (formK ka = true → formK kb = true → formK k = true) ∧ (intK k = true → intK ka = true ∧ intK kb = true) ∧
    ∀ r, roleK r k = true → roleK r ka = true ∧ roleK r kb = true := by
  decide +kernel

-- a premise on `ka` stands in front of `∀ kb`, here and in `xor_eq_table`: the evaluation then skips the whole row
theorem and_complete : ∀ (r : Bool) (ka : TK), roleK r ka = true → ∀ kb : TK, roleK r kb = true →
    ∃ k ∈ binK .AND ka kb, roleK r k = true := by
  decide +kernel

theorem or_table : ∀ ka kb : TK, ∀ k ∈ binK .OR ka kb,
    (formK ka = true → formK kb = true → formK k = true) ∧ (intK k = true → intK ka = true ∧ intK kb = true) ∧
    ∀ r, roleK r k = true → (intK ka = true ∧ roleK r kb = true) ∨ (roleK r ka = true ∧ intK kb = true) := by
  decide +kernel

/-- `xor` makes its operands integral whatever they are; `==` and `!=` also compare clocks and numbers, and make integral
    only the operands that are formulas themselves. -/
theorem xor_eq_table : ∀ op ∈ [BinOp.XOR, .EQ, .NEQ], ∀ ka : TK, (op = .XOR ∨ formK ka = true) →
    ∀ kb : TK, (op = .XOR ∨ formK kb = true) →
    ∀ k ∈ binK op ka kb, formK k = true ∧ intK ka = true ∧ intK kb = true := by
  decide +kernel

theorem not_table : ∀ ka : TK, ∀ k ∈ unK .NOT ka,
    (formK ka = true → formK k = true) ∧ (intK k = true → intK ka = true) ∧ ∀ r, roleK r k = true → intK ka = true := by
  decide +kernel

theorem forall_table : ∀ ka : TK, ∀ k ∈ quantK .FORALL ka,
    (formK ka = true → formK k = true) ∧ (intK k = true → intK ka = true) ∧
    ∀ r, roleK r k = true → roleK r ka = true := by
  decide +kernel

theorem exists_table : ∀ ka : TK, ∀ k ∈ quantK .EXISTS ka,
    (formK ka = true → formK k = true) ∧ (intK k = true → intK ka = true) ∧ ∀ r, roleK r k = true → intK ka = true := by
  decide +kernel

theorem roleK_of_intK : ∀ (k : TK) (r : Bool), intK k = true → roleK r k = true := by decide +kernel

theorem bind₂_some {x y : Option TK} {f : TK → TK → Option TK} {k : TK}
    (h : (x >>= fun a => y >>= fun b => f a b) = some k) : ∃ a b, x = some a ∧ y = some b ∧ f a b = some k := by
  obtain ⟨a, ha, h⟩ := Option.bind_eq_some_iff.mp h
  obtain ⟨b, hb, h⟩ := Option.bind_eq_some_iff.mp h
  exact ⟨a, b, ha, hb, h⟩

theorem clockFree_leavesAll (acc : Form → Bool) (f : Form) (h : ClockFree f = true) : clockLeavesAll acc f = true := by
  induction f with
  | ipred _ => rfl
  | cmp op l r => exact Bool.or_eq_true_iff.mpr (.inl h)
  | and a b iha ihb | or a b iha ihb | imply a b iha ihb | xor a b iha ihb | eq a b iha ihb | neq a b iha ihb =>
    have h := Bool.and_eq_true_iff.mp h
    exact Bool.and_eq_true_iff.mpr ⟨iha h.1, ihb h.2⟩
  | not a iha | all a iha | ex a iha => exact iha h

/-- One induction for the three conjuncts, since the third needs the other two of the operands: the tables give a
    formula kind to a node whose operands have one, and where a table only says that an operand is integral, convexity
    asks that it be clock-free (the second conjunct is the KEY LEMMA: this is where a loosened clause would bite). -/
theorem classify_sound : ∀ (f : Form), WF f = true → noExcLeaf f = true → ∀ k, classify f = some k →
    formK k = true ∧ (intK k = true → ClockFree f = true) ∧
    ∀ r, roleK r k = true → Convex f = true ∧ clockLeavesAll (accepts r) f = true := by
  -- a clock-free operand is convex and has no clock atom
  have free (r : Bool) {a : Form} (h : ClockFree a = true) := And.intro h (clockFree_leavesAll (accepts r) a h)
  have both {x y : Bool} (hx : x = true) (hy : y = true) : (x && y) = true := Bool.and_eq_true_iff.mpr ⟨hx, hy⟩
  intro f
  induction f with
  | ipred s =>
    intro hwf _ k hk
    simp only [WF] at hwf
    simp only [classify, hwf, if_true, Option.some.injEq] at hk
    subst hk
    exact ⟨(by decide : ∀ s : Side, s.clockFree = true → formK s.tk = true) s hwf, fun _ => hwf, fun _ _ => ⟨rfl, rfl⟩⟩
  | cmp op l r =>
    intro hwf hne k hk
    simp only [noExcLeaf, Bool.not_eq_true'] at hne
    obtain ⟨fk, ik⟩ := leaf_table op l r hwf hne k hk
    exact ⟨fk, ik, fun r hp => ⟨rfl, by simp only [clockLeavesAll, (accepts_iff _ _).mpr ⟨k, hk, hp⟩, Bool.or_true]⟩⟩
  | and a b iha ihb =>
    intro hwf hne k hk
    simp only [WF, noExcLeaf, Bool.and_eq_true] at hwf hne
    obtain ⟨ka, kb, ha, hb, hk⟩ := bind₂_some hk
    obtain ⟨fa, ia, ra⟩ := iha hwf.1 hne.1 ka ha
    obtain ⟨fb, ib, rb⟩ := ihb hwf.2 hne.2 kb hb
    obtain ⟨fk, ik, rk⟩ := and_table ka kb k hk
    refine ⟨fk fa fb, fun hi => ?_, fun r hp => ?_⟩
    · exact both (ia (ik hi).1) (ib (ik hi).2)
    · obtain ⟨ca, la⟩ := ra r (rk r hp).1
      obtain ⟨cb, lb⟩ := rb r (rk r hp).2
      exact ⟨both ca cb, both la lb⟩
  | or a b iha ihb =>
    intro hwf hne k hk
    simp only [WF, noExcLeaf, Bool.and_eq_true] at hwf hne
    obtain ⟨ka, kb, ha, hb, hk⟩ := bind₂_some hk
    obtain ⟨fa, ia, ra⟩ := iha hwf.1 hne.1 ka ha
    obtain ⟨fb, ib, rb⟩ := ihb hwf.2 hne.2 kb hb
    obtain ⟨fk, ik, rk⟩ := or_table ka kb k hk
    refine ⟨fk fa fb, fun hi => ?_, fun r hp => ?_⟩
    · exact both (ia (ik hi).1) (ib (ik hi).2)
    · rcases rk r hp with ⟨x, y⟩ | ⟨x, y⟩
      · obtain ⟨cfa, la⟩ := free r (ia x)
        obtain ⟨cb, lb⟩ := rb r y
        exact ⟨Bool.or_eq_true_iff.mpr (.inl (both cfa cb)), both la lb⟩
      · obtain ⟨ca, la⟩ := ra r x
        obtain ⟨cfb, lb⟩ := free r (ib y)
        exact ⟨Bool.or_eq_true_iff.mpr (.inr (both ca cfb)), both la lb⟩
  | imply a b iha ihb =>
    intro hwf hne k hk
    simp only [WF, noExcLeaf, Bool.and_eq_true] at hwf hne
    obtain ⟨ka, ha, hk⟩ := Option.bind_eq_some_iff.mp hk
    obtain ⟨na, hn, hk⟩ := Option.bind_eq_some_iff.mp hk
    obtain ⟨kb, hb, hk⟩ := Option.bind_eq_some_iff.mp hk
    obtain ⟨fa, ia, -⟩ := iha hwf.1 hne.1 ka ha
    obtain ⟨fb, ib, rb⟩ := ihb hwf.2 hne.2 kb hb
    obtain ⟨fn, inn, rn⟩ := not_table ka na hn
    obtain ⟨fk, ik, rk⟩ := or_table na kb k hk
    refine ⟨fk (fn fa) fb, fun hi => ?_, fun r hp => ?_⟩
    · exact both (ia (inn (ik hi).1)) (ib (ik hi).2)
    · -- either way the antecedent is clock-free and the consequent is accepted in the role
      obtain ⟨x, y⟩ : intK ka = true ∧ roleK r kb = true := by
        rcases rk r hp with ⟨x, y⟩ | ⟨x, y⟩
        · exact ⟨inn x, y⟩
        · exact ⟨rn r x, roleK_of_intK kb r y⟩
      obtain ⟨cfa, la⟩ := free r (ia x)
      obtain ⟨cb, lb⟩ := rb r y
      exact ⟨both cfa cb, both la lb⟩
  | xor a b iha ihb | eq a b iha ihb | neq a b iha ihb =>
    intro hwf hne k hk
    simp only [WF, noExcLeaf, Bool.and_eq_true] at hwf hne
    obtain ⟨ka, kb, ha, hb, hk⟩ := bind₂_some hk
    obtain ⟨fa, ia, -⟩ := iha hwf.1 hne.1 ka ha
    obtain ⟨fb, ib, -⟩ := ihb hwf.2 hne.2 kb hb
    obtain ⟨fk, xa, xb⟩ := xor_eq_table _ (by decide) ka (.inr fa) kb (.inr fb) k hk
    refine ⟨fk, fun _ => both (ia xa) (ib xb), fun r _ => ?_⟩
    obtain ⟨cfa, la⟩ := free r (ia xa)
    obtain ⟨cfb, lb⟩ := free r (ib xb)
    exact ⟨both cfa cfb, both la lb⟩
  | all a iha =>
    intro hwf hne k hk
    obtain ⟨ka, ha, hk⟩ := Option.bind_eq_some_iff.mp hk
    obtain ⟨fa, ia, ra⟩ := iha hwf hne ka ha
    obtain ⟨fk, ik, rk⟩ := forall_table ka k hk
    exact ⟨fk fa, fun hi => ia (ik hi), fun r hp => ra r (rk r hp)⟩
  | not a iha =>
    intro hwf hne k hk
    obtain ⟨ka, ha, hk⟩ := Option.bind_eq_some_iff.mp hk
    obtain ⟨fa, ia, -⟩ := iha hwf hne ka ha
    obtain ⟨fk, ik, rk⟩ := not_table ka k hk
    exact ⟨fk fa, fun hi => ia (ik hi), fun r hp => free r (ia (rk r hp))⟩
  | ex a iha =>
    intro hwf hne k hk
    obtain ⟨ka, ha, hk⟩ := Option.bind_eq_some_iff.mp hk
    obtain ⟨fa, ia, -⟩ := iha hwf hne ka ha
    obtain ⟨fk, ik, rk⟩ := exists_table ka k hk
    exact ⟨fk fa, fun hi => ia (ik hi), fun r hp => free r (ia (rk r hp))⟩

theorem accepts_sound (r : Bool) (f : Form) (hwf : WF f = true) (hne : noExcLeaf f = true) (h : accepts r f = true) :
    Convex f = true ∧ clockLeavesAll (accepts r) f = true :=
  have ⟨k, hk, hp⟩ := (accepts_iff r f).mp h
  (classify_sound f hwf hne k hk).2.2 r hp

theorem conj_complete (r : Bool) (f : Form) (h : conjOf (accepts r) f = true) : accepts r f = true := by
  induction f with
  | and a b iha ihb =>
    simp only [conjOf, Bool.and_eq_true] at h
    obtain ⟨ka, ha, pa⟩ := (accepts_iff r a).mp (iha h.1)
    obtain ⟨kb, hb, pb⟩ := (accepts_iff r b).mp (ihb h.2)
    obtain ⟨k, hk, pk⟩ := and_complete r ka pa kb pb
    have hc : classify (.and a b) = binK .AND ka kb := by
      simp only [classify, ha, hb]
      rfl
    exact (accepts_iff r _).mpr ⟨k, hc ▸ hk, pk⟩
  | _ =>
    simp only [conjOf, Bool.and_eq_true] at h
    exact h.2

/-- every clause of every case ends in `finish` of a primitive type (the unknown type is one) -/
theorem typeBin_result (op : BinOp) (a b : Ty) : ∀ t ∈ typeBin op a b, t = .prim t.term := by
  have hs (k : TK) (e : Bool) : (∀ t ∈ finish (.prim k) e, t = .prim t.term) = True := eq_true fun t h => by
    rw [finish] at h
    split at h
    · cases h
    · exact Option.some.inj h ▸ rfl
  have hu (e : Bool) : (∀ t ∈ finish Ty.unknown e, t = .prim t.term) = True := hs .UNKNOWN e
  cases op <;>
  simp only [typeBin, binCase_FRACTION, binCase_PLUS, binCase_MINUS, binCase_AND, binCase_OR, binCase_XOR, binCase_LT,
    binCase_EQ, binCase_NEQ, binCase_GE, binCase_MULT, binCase_MOD,
    apply_ite (fun r : Option Ty => ∀ t ∈ r, t = .prim t.term), hs, hu, ite_self]

end UtapModel.C10
