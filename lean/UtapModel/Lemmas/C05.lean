/- Helper lemmas of C05: the XTA front end fires, for the XTA rendering of a model in the common subset, callbacks that
   build the same document as the XML front end. -/
import UtapModel.Model.Xta
import UtapModel.Lemmas.C04Builder
namespace UtapModel.AM

theorem toX_cons (a : ELabel) (r : List ELabel) : toX (a :: r) = addX a (toX r) := rfl

theorem toX_empty_below (k : Nat) (ls : List ELabel) (h : sortedFrom k ls = true) :
    (0 < k → (toX ls).select = []) ∧ (1 < k → (toX ls).guard = none) ∧ (2 < k → (toX ls).sync = none) ∧
    (3 < k → (toX ls).assign = none) ∧ (4 < k → (toX ls).prob = none) := by
  induction ls generalizing k with
  | nil => simp [toX]
  | cons a r ih =>
    simp only [sortedFrom, Bool.and_eq_true, decide_eq_true_eq] at h
    obtain ⟨hk, hr⟩ := h
    obtain ⟨i0, i1, i2, i3, i4⟩ := ih (labelRank a + 1) hr
    rw [toX_cons]
    -- `addX a` writes section `labelRank a` only, which is not below `k`; the others are those of `toX r`
    have no : ∀ {j} {p : Prop}, j < k → labelRank a = j → p := fun h e => absurd (e ▸ hk) (Nat.not_le_of_lt h)
    have up : ∀ {j}, j < k → j < labelRank a + 1 := fun h => Nat.lt_succ_of_lt (Nat.lt_of_lt_of_le h hk)
    cases a with
    | select _ => exact ⟨fun h => no h rfl, fun h => i1 (up h), fun h => i2 (up h), fun h => i3 (up h), fun h => i4 (up h)⟩
    | guard _ => exact ⟨fun h => i0 (up h), fun h => no h rfl, fun h => i2 (up h), fun h => i3 (up h), fun h => i4 (up h)⟩
    | sync _ _ => exact ⟨fun h => i0 (up h), fun h => i1 (up h), fun h => no h rfl, fun h => i3 (up h), fun h => i4 (up h)⟩
    | assign _ => exact ⟨fun h => i0 (up h), fun h => i1 (up h), fun h => i2 (up h), fun h => no h rfl, fun h => i4 (up h)⟩
    | prob _ => exact ⟨fun h => i0 (up h), fun h => i1 (up h), fun h => i2 (up h), fun h => i3 (up h), fun h => no h rfl⟩

theorem xlabelCalls_toX (ls : List ELabel) (k : Nat) (h : sortedFrom k ls = true) :
    xlabelCalls (toX ls) = ls.flatMap labelCalls := by
  induction ls generalizing k with
  | nil => rfl
  | cons a r ih =>
    simp only [sortedFrom, Bool.and_eq_true, decide_eq_true_eq] at h
    have he := toX_empty_below (labelRank a + 1) r h.2
    rw [toX_cons, List.flatMap_cons, ← ih (labelRank a + 1) h.2]
    -- `toX r` is empty up to the section of `a`: what `addX a` adds there is called first
    cases a <;> simp only [labelRank] at he <;>
      simp [addX, xlabelCalls, xlabelCalls4, optCalls, labelCalls, he.1, he.2.1, he.2.2.1, he.2.2.2.1, he.2.2.2.2]

theorem toX_prob_none (ls : List ELabel) (h : hasProb ls = false) : (toX ls).prob = none := by
  induction ls with
  | nil => rfl
  | cons a r ih =>
    cases a with
    | prob _ => simp [hasProb] at h
    | _ => exact ih h

theorem xlabelCalls4_toX (ls : List ELabel) (k : Nat) (h : sortedFrom k ls = true) (hp : hasProb ls = false) :
    xlabelCalls4 (toX ls) = ls.flatMap labelCalls := by
  rw [← xlabelCalls_toX ls k h, xlabelCalls, toX_prob_none ls hp, optCalls, List.append_nil]

def edgeCallsR (e : String × String × Bool × List ELabel) : List Call :=
  [.procEdgeBegin e.1 e.2.1 e.2.2.1] ++ e.2.2.2.flatMap labelCalls ++ [.procEdgeEnd e.1 e.2.1]

/-- whatever mix of full and chained transitions the rendering chooses, the callbacks are those of the full forms:
    `rootTransId` always holds the source of the last full transition, and a chained one is only used for that source -/
theorem readTrans_render (prefs : List Bool) (root : Option String) (root0 : String)
    (es : List (String × String × Bool × List ELabel))
    (hroot : ∀ s, root = some s → root0 = s) (hs : ∀ e ∈ es, sortedFrom 0 e.2.2.2 = true) :
    readTrans root0 (renderTrans prefs root es) = es.flatMap edgeCallsR := by
  induction es generalizing prefs root root0 with
  | nil => rfl
  | cons e r ih =>
    obtain ⟨s, t, c, ls⟩ := e
    have hsl : sortedFrom 0 ls = true := hs (s, t, c, ls) (by simp)
    have hr : ∀ e ∈ r, sortedFrom 0 e.2.2.2 = true := fun e he => hs e (by simp [he])
    simp only [renderTrans, List.flatMap_cons]
    by_cases hch : (prefs.headD false && root == some s && !hasProb ls) = true
    · simp only [hch, ↓reduceIte, readTrans]
      simp only [Bool.and_eq_true, beq_iff_eq, Bool.not_eq_true'] at hch
      rw [ih prefs.tail root root0 hroot hr, xlabelCalls4_toX ls 0 hsl hch.2, hroot s hch.1.2]
      rfl
    · simp only [hch, Bool.false_eq_true, ↓reduceIte, readTrans]
      rw [ih prefs.tail (some s) s (fun s' h => by cases h; rfl) hr, xlabelCalls_toX ls 0 hsl]
      rfl

def clearFlags (l : ALoc) : ALoc := { l with urgent := false, committed := false }

theorem clearFlags_effName (l : ALoc) : (clearFlags l).effName = l.effName := rfl

theorem stateCalls_stateOf (l : ALoc) (h : labelsOrdered l.labels = true) :
    stateCalls (stateOf l) = locCallsX (clearFlags l) := by
  obtain ⟨id, name, labels, u, c⟩ := l
  rcases labelsOrdered_cases h with rfl | ⟨⟨k, _⟩, rfl⟩ | ⟨_, _, rfl⟩
  · rfl
  · cases k <;> rfl
  · rfl

theorem nodup_map_inj {α β} (f : α → β) (l : List α) (h : (l.map f).Nodup) {a b : α} (ha : a ∈ l) (hb : b ∈ l)
    (hab : f a = f b) : a = b :=
  have hp : l.Pairwise fun a b => f a ≠ f b := List.pairwise_map.mp h
  List.Pairwise.forall_of_forall_of_flip (R := fun a b => f a = f b → a = b) (fun _ _ _ => rfl)
    (hp.imp fun hne heq => absurd heq hne) (hp.imp fun hne heq => absurd heq.symm hne) ha hb hab

/-- XTA names the committed / urgent locations in lists after all states, XML flags each location right after it: there
    `updateLast` has to search the list, and with unique names it is a `map` -/
theorem updateLast_unique (n : String) (f : BLoc → BLoc) (l : List BLoc) (h : (l.map (·.name)).Nodup) :
    updateLast (·.name == n) f l = l.map (fun x => if x.name = n then f x else x) := by
  induction l with
  | nil => rfl
  | cons a r ih =>
    rw [List.map_cons, List.nodup_cons] at h
    rw [updateLast, List.map_cons, ih h.2]
    by_cases hany : r.any (·.name == n) = true
    · obtain ⟨x, hx, hxn⟩ := List.any_eq_true.mp hany
      have han : a.name ≠ n := fun heq => h.1 (List.mem_map.mpr ⟨x, hx, by simpa [heq] using hxn⟩)
      rw [if_pos hany, if_neg han]
    · have hr : r.map (fun x => if x.name = n then f x else x) = r :=
        (List.map_congr_left fun x hx => if_neg fun (heq : x.name = n) =>
          hany (List.any_eq_true.mpr ⟨x, hx, by simp [heq]⟩)).trans (List.map_id' r)
      rw [if_neg hany, hr]
      by_cases han : a.name = n <;> simp [han]

theorem map_ite_names (set : BLoc → BLoc) (hname : ∀ x, (set x).name = x.name) (p : BLoc → Prop) [DecidablePred p]
    (l : List BLoc) : (l.map fun x => if p x then set x else x).map (·.name) = l.map (·.name) := by
  rw [List.map_map]
  exact List.map_congr_left fun x _ => by simp only [Function.comp]; split <;> simp [hname]

def setU (ns : List String) (x : BLoc) : BLoc := if x.name ∈ ns then { x with urgent := true } else x

theorem map_setU_names (ns : List String) (l : List BLoc) : (l.map (setU ns)).map (·.name) = l.map (·.name) :=
  map_ite_names (fun x => { x with urgent := true }) (fun _ => rfl) (·.name ∈ ns) l

theorem mem_filter_names (ls : List ALoc) (p : ALoc → Bool) (hnd : (ls.map (·.effName)).Nodup) (l : ALoc) (hl : l ∈ ls) :
    l.effName ∈ (ls.filter p).map (·.effName) ↔ p l = true := by
  constructor
  · intro h
    obtain ⟨l', hl', heq⟩ := List.mem_map.mp h
    obtain ⟨hm, hp⟩ := List.mem_filter.mp hl'
    exact nodup_map_inj (·.effName) ls hnd hm hl heq ▸ hp
  · exact fun h => List.mem_map.mpr ⟨l, List.mem_filter.mpr ⟨hl, h⟩, rfl⟩

theorem map_ite_filter (ls : List ALoc) (hnd : (ls.map (·.effName)).Nodup) (p : ALoc → Bool) (g : ALoc → BLoc)
    (hg : ∀ l, (g l).name = l.effName) (set : BLoc → BLoc) :
    (ls.map g).map (fun x => if x.name ∈ (ls.filter p).map (·.effName) then set x else x)
      = ls.map fun l => if p l = true then set (g l) else g l := by
  rw [List.map_map]
  refine List.map_congr_left fun l hl => ?_
  simp only [Function.comp, hg, mem_filter_names ls p hnd l hl]

section flags

/- `mk` is `proc_location_commit` or `proc_location_urgent`, `set` sets its flag, `other` reads the other flag -/
variable (mk : String → Call) (set : BLoc → BLoc) (other : BLoc → Bool)
  (hstep : ∀ (b : BState) (T : BTempl) (n : String), symKind T n = some .loc →
    (∀ x ∈ T.locs, x.name = n → other x = false) →
    step (inTempl b T) (mk n) = inTempl b { T with locs := updateLast (·.name == n) set T.locs })
  (hname : ∀ x, (set x).name = x.name) (hother : ∀ x, other (set x) = other x) (hidem : ∀ x, set (set x) = set x)
include hstep hname hother hidem

theorem run_flags (b : BState) (T : BTempl) (ns : List String) (hnd : (T.locs.map (·.name)).Nodup)
    (hin : ∀ n ∈ ns, n ∈ T.locs.map (·.name) ∧ n ∉ T.bps) (ho : ∀ x ∈ T.locs, x.name ∈ ns → other x = false) :
    run (inTempl b T) (ns.map mk) = inTempl b { T with locs := T.locs.map fun x => if x.name ∈ ns then set x else x } := by
  induction ns generalizing T with
  | nil => simp [run]
  | cons n r ih =>
    have hnames := map_ite_names set hname (·.name = n) T.locs
    rw [List.map_cons, run_cons, hstep b T n (symKind_loc T n (hin n (by simp)).1 (hin n (by simp)).2)
      (fun x hx hxn => ho x hx (by simp [hxn])), updateLast_unique n set T.locs hnd, ih _ (hnames ▸ hnd)
      (fun m hm => hnames ▸ hin m (by simp [hm]))]
    · congr 2
      rw [List.map_map]
      refine List.map_congr_left fun x _ => ?_
      by_cases hxn : x.name = n <;> by_cases hxr : x.name ∈ r <;> simp [hxn, hxr, hname, hidem]
    · intro y hy hyr
      obtain ⟨x, hx, rfl⟩ := List.mem_map.mp hy
      by_cases hxn : x.name = n
      · rw [if_pos hxn, hother]
        exact ho x hx (by simp [hxn])
      · rw [if_neg hxn] at hyr ⊢
        exact ho x hx (by simp [hyr])

theorem run_flags_filter (b : BState) (t : ATempl) (ls : List ALoc) (B : List String) (p : ALoc → Bool) (g : ALoc → BLoc)
    (hg : ∀ l, (g l).name = l.effName) (hnd : (ls.map (·.effName)).Nodup) (hB : ∀ l ∈ ls, l.effName ∉ B)
    (ho : ∀ l ∈ ls, p l = true → other (g l) = false) :
    run (inTempl b (templ0 t (ls.map g) B)) (((ls.filter p).map (·.effName)).map mk)
      = inTempl b (templ0 t (ls.map fun l => if p l = true then set (g l) else g l) B) := by
  have hL : (ls.map g).map (·.name) = ls.map (·.effName) := by simp [List.map_map, Function.comp_def, hg]
  rw [← map_ite_filter ls hnd p g hg set]
  refine run_flags mk set other hstep hname hother hidem b (templ0 t (ls.map g) B) _ (hL ▸ hnd) ?_ ?_
  · intro n hn
    obtain ⟨l, hl, rfl⟩ := List.mem_map.mp hn
    exact ⟨hL ▸ List.mem_map_of_mem (List.mem_filter.mp hl).1, hB l (List.mem_filter.mp hl).1⟩
  · intro x hx hxn
    obtain ⟨l, hl, rfl⟩ := List.mem_map.mp hx
    exact ho l hl ((mem_filter_names ls p hnd l hl).mp (hg l ▸ hxn))

end flags

theorem refName'_eq (t : ATempl) (r : String) : refName' t r = nameOf t r := rfl

/-- states, branchpoints, commit list, urgent list: the same locations and branchpoints as from the XML order -/
theorem run_xta_mid (b : BState) (t : ATempl) (hw : TemplWf t) :
    run (inTempl b (templ0 t [] []))
        ((t.locs.map stateOf).flatMap stateCalls ++ (t.bps.map bpName).map .procBranchpoint ++
          ((t.locs.filter (·.committed)).map (·.effName)).map .procLocationCommit ++
          ((t.locs.filter (·.urgent)).map (·.effName)).map .procLocationUrgent)
      = inTempl b (templ0 t (t.locs.map locOf) (t.bps.map bpName)) := by
  obtain ⟨hnl, -, hdisj⟩ := List.nodup_append.mp hw.names
  have hord : ∀ l ∈ t.locs, labelsOrdered l.labels = true ∧ (l.urgent = true → l.committed = false) := fun l hl => by
    have := hw.locs l hl
    simp only [ALoc.wf, Bool.and_eq_true, Bool.not_eq_true', Bool.and_eq_false_iff] at this
    exact ⟨this.1, fun hu => this.2.resolve_left (by simp [hu])⟩
  have hB : ∀ l ∈ t.locs, l.effName ∉ t.bps.map bpName := fun l hl hmem => hdisj _ (List.mem_map_of_mem hl) _ hmem rfl
  have hstates : (t.locs.map stateOf).flatMap stateCalls = (t.locs.map clearFlags).flatMap locCallsX := by
    simp only [List.flatMap_def, List.map_map]
    exact congrArg List.flatten (List.map_congr_left fun l hl => stateCalls_stateOf l (hord l hl).1)
  -- states and branchpoints: the XML callbacks for the locations with their flags cleared; the two lists then set the flags
  have h12 := run_locs_bps b t hw (t.locs.map clearFlags) (by rw [List.map_map]; rfl) fun l hl => by
    obtain ⟨l', hl', rfl⟩ := List.mem_map.mp hl
    simp [ALoc.wf, clearFlags, (hord l' hl').1]
  rw [List.map_map (f := clearFlags)] at h12
  have h3 := run_flags_filter (mk := .procLocationCommit) (set := fun x => { x with committed := true }) (other := (·.urgent))
    step_commit (fun _ => rfl) (fun _ => rfl) (fun _ => rfl) b t t.locs (t.bps.map bpName)
    (p := (·.committed)) (g := fun l => locOf (clearFlags l)) (fun _ => rfl) hnl hB fun _ _ _ => rfl
  -- an urgent location is not committed (`hord`): the commit list has left it as it was
  have h4 := run_flags_filter (mk := .procLocationUrgent) (set := fun x => { x with urgent := true }) (other := (·.committed))
    step_urgent (fun _ => rfl) (fun _ => rfl) (fun _ => rfl) b t t.locs (t.bps.map bpName)
    (p := (·.urgent))
    (g := fun l => if l.committed = true then { locOf (clearFlags l) with committed := true } else locOf (clearFlags l))
    (fun l => by split <;> rfl) hnl hB fun l hl hu => by
      rw [(hord l hl).2 hu]
      rfl
  rw [run_append, run_append, hstates, h12]
  refine ((congrArg (run · _) h3).trans h4).trans ?_
  congr 2
  refine List.map_congr_left fun l _ => ?_
  cases hc : l.committed <;> cases hu : l.urgent <;> simp [locOf, clearFlags, hc, hu, ALoc.effName]

theorem resolved_calls (t : ATempl) (es : List AEdge) (h : ∀ e ∈ es, e.src ∈ t.nodeIds ∧ e.tgt ∈ t.nodeIds) :
    (es.filterMap (resolveEdge t)).flatMap edgeCallsR = es.flatMap (edgeCallsX t) := by
  induction es with
  | nil => rfl
  | cons e r ih =>
    obtain ⟨a, ha⟩ := (ref_resolves t (h e (by simp)).1).1
    obtain ⟨c, hc⟩ := (ref_resolves t (h e (by simp)).2).1
    simp only [List.filterMap_cons, resolveEdge, refName'_eq, ha, hc, List.flatMap_cons, edgeCallsX, edgeCallsR,
      ih (fun x hx => h x (by simp [hx]))]

theorem resolved_sorted (t : ATempl) (es : List AEdge) (h : ∀ e ∈ es, sortedFrom 0 e.labels = true) :
    ∀ x ∈ es.filterMap (resolveEdge t), sortedFrom 0 x.2.2.2 = true := by
  intro x hx
  obtain ⟨e, he, hxe⟩ := List.mem_filterMap.mp hx
  unfold resolveEdge at hxe
  split at hxe
  · cases hxe
    exact h e he
  · cases hxe

theorem run_proc (t : ATempl) (prefs : List Bool) (hw : TemplWf t) (hso : ∀ e ∈ t.edges, sortedFrom 0 e.labels = true)
    (d : Doc) (p : Nat) (es : List String) :
    run (idle d p es) (procRead "" (renderProc prefs t)) = idle { d with templates := d.templates ++ [templOf t] } p es := by
  obtain ⟨r, li, hinit, -, hfind, hi⟩ := hw.init_loc
  have htr : readTrans "" (renderTrans prefs none (t.edges.filterMap (resolveEdge t))) = t.edges.flatMap (edgeCallsX t) := by
    rw [readTrans_render prefs none "" _ (fun s h => nomatch h) (resolved_sorted t t.edges hso), resolved_calls t t.edges hw.edges]
  have := run_templ_frame t hw d p es (run_xta_mid _ t hw)
  rw [hi] at this
  simpa only [procRead, renderProc, hinit, refName', hfind, htr, List.append_assoc] using this

theorem wf_of_common {M : AModel} (h : M.inCommonSubset = true) : M.wf = true := (Bool.and_eq_true_iff.mp h).1

/-- **XTA front end.**  For a model of the common subset and any choice of chained transitions, the callbacks of the XTA
    front end drive the builder into the same state -- document, stacks, diagnostics -- as those of the XML reader. -/
theorem build_xtaRead (M : AModel) (prefs : List Bool) (h : M.inCommonSubset = true) :
    build (xtaRead (renderXta prefs M)) = build (xmlCalls M) := by
  have hw := templWf_of_wf (wf_of_common h)
  have hso : ∀ t ∈ M.templates, ∀ e ∈ t.edges, sortedFrom 0 e.labels = true := by
    simpa [AModel.inCommonSubset, labelsXtaOrder] using (Bool.and_eq_true_iff.mp h).2
  have hx : xtaRead (renderXta prefs M) = M.gdecls.map .declItem ++ M.templates.flatMap (fun t => procRead "" (renderProc prefs t)) ++
      parseCalls .system (.system M.insts M.procs) ++ [.done] := by
    simp [xtaRead, renderXta, parseCalls, List.flatMap_map]
  rw [hx, build_front _ M fun t ht => run_proc t prefs (hw t ht) (hso t ht),
    xmlCalls, build_front templCallsX M fun t ht => run_templ t (hw t ht)]

end UtapModel.AM
