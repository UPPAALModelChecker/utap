/- C12: `constDeclared` and `clean` through the type constructors of the builder callbacks (`Model/ConstDecl.lean`).
   `createPrefix k` keeps the one for a wrapper kind and the other for a kind outside `nonMutableKinds`; `wrapKinds_ind`
   carries either to `applyPrefix` and to the reference wrapper. -/
import UtapModel.Model.ConstDecl
import UtapModel.Lemmas.Const

namespace UtapModel.Const
open UtapModel UtapModel.ConstGen

theorem viaCallback_eq (cb : TypeCallback) (p : Prefix) (t : Ty) : viaCallback cb p t = applyPrefix p t := by
  cases cb <;> rfl

theorem prefixKinds_wrappers : ∀ p, ∀ k ∈ prefixKinds p, wrapperKinds.contains k = true := by
  intro p; cases p <;> decide

theorem prefixKinds_clean : ∀ p, p ≠ .const → ∀ k ∈ prefixKinds p, nonMutableKinds.contains k = false := by
  intro p; cases p <;> decide

theorem refParamKinds_wrappers : ∀ k ∈ refParamKinds, wrapperKinds.contains k = true := by decide

theorem refParamKinds_clean : ∀ k ∈ refParamKinds, nonMutableKinds.contains k = false := by decide

/-- what every prefix of the kinds `ks` preserves, `wrapKinds ks` preserves -/
theorem wrapKinds_ind {P : Ty → Prop} {Q : Kind → Prop} (step : ∀ {t k}, Q k → P t → P (t.createPrefix k)) :
    ∀ (ks : List Kind) {t : Ty}, (∀ k ∈ ks, Q k) → P t → P (wrapKinds ks t)
  | [], _, _, h => h
  | k :: ks, _, hk, h =>
    wrapKinds_ind step ks (fun k' hk' => hk k' (List.mem_cons_of_mem k hk')) (step (hk k List.mem_cons_self) h)

theorem constDeclared_wrapKinds (ks : List Kind) {t : Ty} (hk : ∀ k ∈ ks, wrapperKinds.contains k = true)
    (h : t.constDeclared = true) : (wrapKinds ks t).constDeclared = true :=
  wrapKinds_ind (P := (·.constDeclared = true)) constDeclared_createPrefix ks hk h

theorem constDeclared_applyPrefix (p : Prefix) {t : Ty} (h : t.constDeclared = true) :
    (applyPrefix p t).constDeclared = true :=
  constDeclared_wrapKinds _ (prefixKinds_wrappers p) h

theorem constDeclared_applyPrefix_const (t : Ty) : (applyPrefix .const t).constDeclared = true := rfl

theorem constDeclared_createLabel {t : Ty} (n : String) (h : t.constDeclared = true) : (t.createLabel n).constDeclared = true :=
  constDeclared_createPrefix (k := .kLABEL) rfl h

theorem clean_mk {k : Kind} {cs : Children} (hk : nonMutableKinds.contains k = false) (h : cs.noneOf nonMutableKinds = true) :
    (Ty.mk k cs).clean = true := by
  rw [Ty.clean, Ty.noneOf, hk, h]; rfl

theorem clean_createPrefix {t : Ty} {k : Kind} (hk : nonMutableKinds.contains k = false) (h : t.clean = true) :
    (t.createPrefix k).clean = true :=
  clean_mk hk (Bool.and_eq_true_iff.2 ⟨h, rfl⟩)

theorem clean_wrapKinds (ks : List Kind) {t : Ty} (hk : ∀ k ∈ ks, nonMutableKinds.contains k = false)
    (h : t.clean = true) : (wrapKinds ks t).clean = true :=
  wrapKinds_ind (P := (·.clean = true)) clean_createPrefix ks hk h

theorem clean_applyPrefix {p : Prefix} {t : Ty} (hp : p ≠ .const) (h : t.clean = true) : (applyPrefix p t).clean = true :=
  clean_wrapKinds _ (prefixKinds_clean p hp) h

theorem clean_createLabel {t : Ty} (n : String) (h : t.clean = true) : (t.createLabel n).clean = true :=
  clean_createPrefix (k := .kLABEL) rfl h

theorem clean_createRange {t : Ty} (h : t.clean = true) : t.createRange.clean = true :=
  clean_mk rfl (Bool.and_eq_true_iff.2 ⟨h, rfl⟩)

theorem clean_rangeInt : rangeInt.clean = true := rfl

end UtapModel.Const
