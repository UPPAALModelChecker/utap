/- The laws of substitution are proved on expression trees and carried to types through `embed`.  A round of `expr_dot`
   lowers by one the greatest rank of a mapped symbol that still occurs, whatever the order of the pairs (`fold_lowers`,
   `passes_closed`); with closed arguments the order does not matter at all (`passes_perm`). -/
import UtapModel.Model.TypeSubst

namespace UtapModel.TypeSubst

theorem substE_self (s : Nat) (t : E) : substE s (.id s) t = t := by
  induction t with
  | id x =>
    rw [substE]
    split
    · next h => rw [h]
    · rfl
  | atom k => rfl
  | app f a ihf iha => simp only [substE, ihf, iha]

theorem substE_notocc (s : Nat) (e t : E) (h : occE s t = false) : substE s e t = t := by
  induction t with
  | id x =>
    simp only [occE, beq_eq_false_iff_ne, ne_eq] at h
    simp only [substE, h, if_false]
  | atom k => rfl
  | app f a ihf iha =>
    simp only [occE, Bool.or_eq_false_iff] at h
    simp only [substE, ihf h.1, iha h.2]

theorem occE_subst (x s : Nat) (e t : E) : occE x (substE s e t) = ((x != s && occE x t) || (occE s t && occE x e)) := by
  induction t with
  | id y =>
    rw [substE]
    by_cases hy : y = s
    · -- `y` gives way to `e`, and `x` cannot be both `y` and other than `s`
      rw [if_pos hy, occE, occE, hy]
      by_cases hx : s = x <;> simp [hx]
    · -- `y` stays, and where it is `x` this `x` is not `s`
      rw [if_neg hy, occE, occE, beq_false_of_ne hy, Bool.false_and, Bool.or_false]
      by_cases hx : y = x
      · simp [← hx, hy]
      · rw [beq_false_of_ne hx, Bool.and_false]
  | atom k => simp [substE, occE]
  | app f a ihf iha =>
    simp only [substE, occE, ihf, iha, Bool.and_or_distrib_left, Bool.and_or_distrib_right]
    ac_rfl

theorem substE_comm (s1 s2 : Nat) (e1 e2 t : E) (hne : s1 ≠ s2) (h1 : occE s1 e2 = false) (h2 : occE s2 e1 = false) :
    substE s1 e1 (substE s2 e2 t) = substE s2 e2 (substE s1 e1 t) := by
  induction t with
  | id x =>
    by_cases hx2 : x = s2
    · subst hx2
      have : ¬ x = s1 := fun h => hne h.symm
      simp only [substE, if_true, this, if_false, substE_notocc s1 e1 e2 h1]
    · by_cases hx1 : x = s1
      · subst hx1
        simp only [substE, hx2, if_false, if_true, substE_notocc s2 e2 e1 h2]
      · simp only [substE, hx2, hx1, if_false]
  | atom k => rfl
  | app f a ihf iha => simp only [substE, ihf, iha]

/-! A type is a tree: `embed` carries `substT`, `occT` to `substE`, `occE` and loses nothing, so every law above holds of types. -/

theorem embed_subst (s : Nat) (e : E) (t : T) : embed (substT s e t) = substE s e (embed t) := by
  induction t with
  | prim k => rfl
  | withExpr t x ih => simp only [substT, embed, substE, ih]
  | child t l c iht ihc => simp only [substT, embed, substE, iht, ihc]

theorem occ_embed (x : Nat) (t : T) : occE x (embed t) = occT x t := by
  induction t with
  | prim k => rfl
  | withExpr t e ih => simp [embed, occE, occT, ih]
  | child t l c iht ihc => simp [embed, occE, occT, iht, ihc]

theorem embed_injective {t t' : T} (h : embed t = embed t') : t = t' := by
  induction t generalizing t' with
  | prim k =>
    cases t' with
    | prim k' => exact congrArg T.prim (E.atom.inj h)
    | _ => cases h
  | withExpr t x ih =>
    cases t' with
    | withExpr t2 x2 =>
      simp only [embed, E.app.injEq, true_and] at h
      rw [ih h.1, h.2]
    | _ => simp [embed] at h
  | child t l c iht ihc =>
    cases t' with
    | child t2 l2 c2 =>
      simp only [embed, E.app.injEq, E.atom.injEq, true_and] at h
      rw [iht h.1.1, h.1.2, ihc h.2]
    | _ => simp [embed] at h

theorem substT_self (s : Nat) (t : T) : substT s (.id s) t = t :=
  embed_injective (by rw [embed_subst, substE_self])

theorem substT_notocc (s : Nat) (e : E) (t : T) (h : occT s t = false) : substT s e t = t :=
  embed_injective (by rw [embed_subst, substE_notocc s e _ (by rw [occ_embed, h])])

theorem occT_subst (x s : Nat) (e : E) (t : T) : occT x (substT s e t) = ((x != s && occT x t) || (occT s t && occE x e)) := by
  rw [← occ_embed, embed_subst, occE_subst, occ_embed, occ_embed]

theorem substT_comm (s1 s2 : Nat) (e1 e2 : E) (t : T) (hne : s1 ≠ s2) (h1 : occE s1 e2 = false) (h2 : occE s2 e1 = false) :
    substT s1 e1 (substT s2 e2 t) = substT s2 e2 (substT s1 e1 t) :=
  embed_injective (by simp only [embed_subst, substE_comm s1 s2 e1 e2 _ hne h1 h2])

theorem embed_pass (m : List (Nat × E)) (t : T) : embed (pass m t) = passE m (embed t) := by
  unfold pass passE
  induction m generalizing t with
  | nil => rfl
  | cons p l ih => simp only [List.foldl_cons, ih, embed_subst]

theorem embed_passes (m : List (Nat × E)) (k : Nat) (t : T) : embed (passes m k t) = passesE m k (embed t) := by
  induction k generalizing t with
  | zero => rfl
  | succ k ih => simp only [passes, passesE, ih, embed_pass]

theorem isKey_iff (m : List (Nat × E)) (x : Nat) : isKey m x = true ↔ x ∈ m.map (·.1) := by
  simp only [isKey, List.any_eq_true, beq_iff_eq, List.mem_map]

theorem isKey_of_mem {m : List (Nat × E)} {p : Nat × E} (hp : p ∈ m) : isKey m p.1 = true :=
  (isKey_iff m p.1).2 (List.mem_map.2 ⟨p, hp, rfl⟩)

/-- the arguments of the mapping depend on each other without a cycle: `r` ranks the mapped symbols so that an argument only mentions
    mapped symbols of smaller rank (the parameters bound by LATER instantiation steps) -/
def Acyclic (m : List (Nat × E)) (r : Nat → Nat) : Prop :=
  ∀ p ∈ m, ∀ x, isKey m x = true → occE x p.2 = true → r x < r p.1

def Below (m : List (Nat × E)) (r : Nat → Nat) (M : Nat) (t : T) : Prop :=
  ∀ x, isKey m x = true → occT x t = true → r x < M

theorem below_subst {m r M t} (hac : Acyclic m r) (p : Nat × E) (hp : p ∈ m) (hB : Below m r M t) : Below m r M (substT p.1 p.2 t) := by
  intro x hk ho
  rw [occT_subst] at ho
  simp only [Bool.or_eq_true, Bool.and_eq_true] at ho
  cases ho with
  | inl h => exact hB x hk h.2
  | inr h => exact Nat.lt_trans (hac p hp x hk h.2) (hB p.1 (isKey_of_mem hp) h.1)

/-- one round, whatever the order of the pairs: the greatest rank that still occurs goes down by one.  Along the round (`l` = the pairs
    still to come) the symbols of rank `M` that occur are all still to be substituted. -/
theorem fold_lowers {m r M} (hac : Acyclic m r) (l : List (Nat × E)) (hl : ∀ p ∈ l, p ∈ m) (t : T) (hB : Below m r (M + 1) t)
    (hM : ∀ x, isKey m x = true → occT x t = true → r x = M → x ∈ l.map (·.1)) :
    Below m r M (l.foldl (fun t p => substT p.1 p.2 t) t) := by
  induction l generalizing t with
  | nil =>
    intro x hk ho
    have h1 := hB x hk ho
    have h2 : r x ≠ M := fun h => List.not_mem_nil (hM x hk ho h)
    omega
  | cons p l ih =>
    have hpm := hl p (List.mem_cons_self ..)
    refine ih (fun q hq => hl q (List.mem_cons_of_mem _ hq)) _ (below_subst hac p hpm hB) fun x hk ho hr => ?_
    rw [occT_subst] at ho
    simp only [Bool.or_eq_true, Bool.and_eq_true, bne_iff_ne, ne_eq] at ho
    rcases ho with ⟨hne, ho⟩ | ⟨hs, hxe⟩
    · exact (List.mem_cons.1 (hM x hk ho hr)).resolve_left hne
    · -- `x` came in with the argument of `p`: its rank is below that of `p.1`, which is at most `M`
      have h1 := hac p hpm x hk hxe
      have h2 := hB p.1 (isKey_of_mem hpm) hs
      omega

theorem pass_lowers {m r M t} (hac : Acyclic m r) (hB : Below m r (M + 1) t) : Below m r M (pass m t) :=
  fold_lowers hac m (fun _ h => h) t hB (fun x hk _ _ => (isKey_iff m x).1 hk)

theorem passes_lower {m r} (hac : Acyclic m r) (k M : Nat) (t : T) (h : Below m r (M + k) t) : Below m r M (passes m k t) := by
  induction k generalizing t with
  | zero => exact h
  | succ k ih => exact ih (pass m t) (pass_lowers hac h)

theorem passes_closed {m r} (hac : Acyclic m r) (k : Nat) (hr : ∀ x, isKey m x = true → r x < k) (t : T) (x : Nat)
    (hx : isKey m x = true) : occT x (passes m k t) = false :=
  Bool.eq_false_iff.2 fun ho =>
    Nat.not_lt_zero _ (passes_lower hac k 0 t (fun y hy _ => (Nat.zero_add k).symm ▸ hr y hy) x hx ho)

theorem pass_perm {m m' : List (Nat × E)} (hp : m.Perm m') (hnd : (m.map (·.1)).Nodup)
    (hcl : ∀ p ∈ m, ∀ q ∈ m, occE q.1 p.2 = false) (t : T) : pass m t = pass m' t := by
  -- any two entries commute (`substT_comm`), so the fold does not depend on their order
  have hc : m.Pairwise fun p q => ∀ z, substT q.1 q.2 (substT p.1 p.2 z) = substT p.1 p.2 (substT q.1 q.2 z) :=
    (List.pairwise_map.mp hnd).imp_of_mem fun hp hq hne z =>
      substT_comm _ _ _ _ z (Ne.symm hne) (hcl _ hp _ hq) (hcl _ hq _ hp)
  exact hp.foldl_eq' (List.Pairwise.forall_of_forall_of_flip (fun _ _ _ => rfl) hc (hc.imp fun h z => (h z).symm)) t

theorem passes_perm {m m' : List (Nat × E)} (hp : m.Perm m') (hnd : (m.map (·.1)).Nodup)
    (hcl : ∀ p ∈ m, ∀ q ∈ m, occE q.1 p.2 = false) (k : Nat) (t : T) : passes m k t = passes m' k t := by
  induction k generalizing t with
  | zero => rfl
  | succ k ih => rw [passes, passes, pass_perm hp hnd hcl t, ih]

theorem pass_stable (m : List (Nat × E)) (t : T) (h : ∀ p ∈ m, occT p.1 t = false) : pass m t = t := by
  induction m with
  | nil => rfl
  | cons p l ih =>
    rw [pass, List.foldl_cons, substT_notocc p.1 p.2 t (h p (List.mem_cons_self ..))]
    exact ih fun q hq => h q (List.mem_cons_of_mem _ hq)

theorem passes_stable (m : List (Nat × E)) (k : Nat) (t : T) (h : ∀ p ∈ m, occT p.1 t = false) : passes m k t = t := by
  induction k with
  | zero => rfl
  | succ k ih => rw [passes, pass_stable m t h, ih]

end UtapModel.TypeSubst
