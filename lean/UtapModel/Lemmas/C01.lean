/- C01: soundness of the local check `lbProd` -- generic in the grammar table, the effect table and the signatures.
   The check is an abstract interpretation of one production: `Sat` relates its abstract heights to concrete ones,
   `Meets` says what a nonterminal's signature promises about a trace, and `run_sound` (induction over `Run`) shows
   that the traces of checked productions keep the promises. -/
import UtapModel.Model.C01Stack
namespace UtapModel.C01

theorem dot_nil_right (a : List Int) : dot a [] = 0 := by
  cases a <;> rfl

theorem dot_addV (a b : List Int) (vals : List Nat) : dot (addV a b) vals = dot a vals + dot b vals := by
  fun_induction addV a b generalizing vals with
  | case1 b => simp [dot]
  | case2 a _ => simp [dot]
  | case3 x a y b ih =>
    cases vals with
    | nil => rfl
    | cons e es => simp only [dot, ih, Int.add_mul]; omega

theorem dot_scale (k : Int) (a : List Int) (vals : List Nat) : dot (a.map (k * ·)) vals = k * dot a vals := by
  fun_induction dot a vals with
  | case1 => simp [dot]
  | case2 => simp [dot]
  | case3 x a e es ih => simp only [List.map, dot, ih, Int.mul_add, Int.mul_assoc]

theorem dot_unit (pos : Nat) (k : Int) (vals : List Nat) :
    dot (List.replicate pos 0 ++ [k]) vals = k * ((vals.getD pos 0 : Nat) : Int) := by
  induction pos generalizing vals with
  | zero => cases vals <;> simp [dot]
  | succ n ih =>
    cases vals with
    | nil => simp [List.replicate, dot]
    | cons e es => simp only [List.replicate, List.cons_append, dot, ih, List.getD_cons_succ]; omega

theorem dot_nonneg (a : List Int) (vals : List Nat) (h : a.all (fun x => decide (0 ≤ x)) = true) : 0 ≤ dot a vals := by
  fun_induction dot a vals with
  | case1 => exact Int.le_refl 0
  | case2 => exact Int.le_refl 0
  | case3 x a e es ih =>
    simp only [List.all_cons, Bool.and_eq_true, decide_eq_true_eq] at h
    exact Int.add_nonneg (Int.mul_nonneg h.1 (Int.natCast_nonneg e)) (ih h.2)

theorem dot_zero (a : List Int) (vals : List Nat) (h : a.all (fun x => decide (x = 0)) = true) : dot a vals = 0 := by
  fun_induction dot a vals with
  | case1 => rfl
  | case2 => rfl
  | case3 x a e es ih =>
    simp only [List.all_cons, Bool.and_eq_true, decide_eq_true_eq] at h
    rw [h.1, ih h.2]; omega

@[simp] theorem eval_zero (vals : List Nat) : Lin.zero.eval vals = 0 := by simp [Lin.zero, Lin.eval, dot]
@[simp] theorem eval_const (c : Int) (vals : List Nat) : (Lin.const c).eval vals = c := by simp [Lin.const, Lin.eval, dot]
@[simp] theorem eval_add (a b : Lin) (vals : List Nat) : (a.add b).eval vals = a.eval vals + b.eval vals := by
  simp only [Lin.add, Lin.eval, dot_addV]; omega
@[simp] theorem eval_scale (k : Int) (a : Lin) (vals : List Nat) : (a.scale k).eval vals = k * a.eval vals := by
  simp only [Lin.scale, Lin.eval, dot_scale, Int.mul_add]
@[simp] theorem eval_sub (a b : Lin) (vals : List Nat) : (a.sub b).eval vals = a.eval vals - b.eval vals := by
  simp only [Lin.sub, eval_add, eval_scale]; omega
@[simp] theorem eval_unit (pos : Nat) (k : Int) (vals : List Nat) :
    (Lin.unit pos k).eval vals = k * ((vals.getD pos 0 : Nat) : Int) := by
  simp only [Lin.unit, Lin.eval, dot_unit]; omega

theorem nonneg_sound {a : Lin} (h : a.nonneg = true) (vals : List Nat) : 0 ≤ a.eval vals := by
  simp only [Lin.nonneg, Bool.and_eq_true, decide_eq_true_eq] at h
  have := dot_nonneg a.v vals h.2
  simp only [Lin.eval]; omega

def Sat (vals : List Nat) (h0 : Int) : AState → Int → Prop
  | .rel f, h => h0 + f.eval vals ≤ h
  | .abs a, h => (a : Int) ≤ h

theorem okState_abs {dipA a : Nat} {loA : Option (Int × Int)} (hok : okState dipA loA (.abs a) = true) : loA = none :=
  Option.isNone_iff_eq_none.mp hok

theorem sat_ok {vals : List Nat} {h0 h : Int} {needA dipA : Nat} {loA : Option (Int × Int)} {st : AState}
    (hok : okState dipA loA st = true) (hA : (needA : Int) ≤ h0) (hd : dipA ≤ needA) (hs : Sat vals h0 st h) :
    0 ≤ h ∧ (loA.isSome → h0 - dipA ≤ h) := by
  cases st with
  | abs a =>
    cases okState_abs hok
    exact ⟨Int.le_trans (Int.natCast_nonneg a) hs, fun h1 => nomatch h1⟩
  | rel f =>
    have := nonneg_sound hok vals
    simp only [eval_add, eval_const] at this
    simp only [Sat] at hs
    exact ⟨by omega, fun _ => by omega⟩

theorem runH_append {CB : Type} (eff : CB → Eff) (h : Int) (a b : List (CallInst CB)) :
    runH eff h (a ++ b) = (runH eff h a).bind (fun h' => runH eff h' b) := by
  induction a generalizing h with
  | nil => simp [runH]
  | cons x a ih =>
    simp only [List.cons_append, runH]
    cases stepH eff h x with
    | none => simp
    | some h1 => simp [ih]

theorem runH_append_some {CB : Type} {eff : CB → Eff} {h h1 h2 : Int} {a b : List (CallInst CB)}
    (ha : runH eff h a = some h1) (hb : runH eff h1 b = some h2) : runH eff h (a ++ b) = some h2 := by
  rw [runH_append, ha]; exact hb

/-- appending one plain (count-free, non-throwing) callback to a safe trace -/
theorem runH_snoc {CB : Type} {eff : CB → Eff} {h h1 : Int} {tr : List (CallInst CB)} {cb : CB} {need : Nat} {d : Int}
    (hr : runH eff h tr = some h1) (he : eff cb = ⟨need, 0, d, 0, d, 0, false, false, false⟩) (hn : (need : Int) ≤ h1) :
    runH eff h (tr ++ [⟨cb, 0, false, 0⟩]) = some (h1 + d) := by
  simp [runH_append, hr, runH, stepH, he, hn]

section sound
variable {CB NT : Type}
variable (sig : NT → Sig) (eff : CB → Eff)

/-- what the signature `s` promises about the trace `tr` of a run (complete if `part = false`) with attribute `v`:
    started with `need` entries it is safe; unless the stack may be reset (`lo = none`) it never ends below
    `entry - dip`, and a complete one ends at least at `entry + c0 + c1*v` -/
def Meets (s : Sig) (part : Bool) (v : Int) (tr : List (CallInst CB)) : Prop :=
  ∀ h : Int, (s.need : Int) ≤ h → ∃ h', runH eff h tr = some h' ∧ 0 ≤ h' ∧
    (s.lo.isSome → h - s.dip ≤ h') ∧ (part = false → ∀ c0 c1, s.lo = some (c0, c1) → h + c0 + c1 * v ≤ h')

/-- every run of `items` follows the check: from a height that satisfies the abstract state before, it is safe and
    ends (if complete) at a height that satisfies the abstract state after, and in any case above the floor -/
def ItemsSound (b : Bool) (vals : List Nat) (pos : Nat) (items : List (Item CB NT)) (tr : List (CallInst CB)) : Prop :=
  ∀ (needA dipA : Nat) (loA : Option (Int × Int)) (h0 h : Int) (st st' : AState),
    checkItems sig eff needA dipA loA pos items st = some st' → (needA : Int) ≤ h0 → dipA ≤ needA → Sat vals h0 st h →
    ∃ h', runH eff h tr = some h' ∧ 0 ≤ h' ∧ (b = false → Sat vals h0 st' h') ∧ (loA.isSome → h0 - dipA ≤ h')

variable {sig eff} {vals : List Nat} {h0 h : Int} {needA dipA pos : Nat} {loA : Option (Int × Int)} {st st1 st' : AState}
  {B : NT} {tr : List (CallInst CB)}

/-- under `argOk`, the form `k·n` of the check evaluates to `k` times the count the instance carries
    (for `.types` the count is unknown, and `argOk` has made sure that `k = 0`) -/
theorem arg_scale_eval {e : Eff} {c : Call CB} {ci : CallInst CB} (hok : argOk e c.arg = true)
    (hadm : c.admits vals ci) {k : Int} (hk : k = e.needN ∨ k = e.dN ∨ k = e.tN) :
    ((argLin c.arg).scale k).eval vals = k * ci.n := by
  have harg := hadm.2
  cases hca : c.arg with
  | none =>
    rw [hca] at harg
    simp [argLin, show ci.n = 0 from harg]
  | cnt l =>
    rw [hca] at harg
    simp [argLin, show (ci.n : Int) = l.eval vals from harg]
  | types =>
    rw [hca] at hok
    simp only [argOk, Bool.and_eq_true, decide_eq_true_eq] at hok
    rcases hk with rfl | rfl | rfl <;> simp [argLin, hok.1.1, hok.1.2, hok.2]

/-- `lb` is what an abstract state knows of `h` (`a` for `abs a`, `h0 + f` for `rel f`): one statement of the concrete
    step for both -/
theorem stepH_lower {lb : Int} {ci : CallInst CB} (hlb : lb ≤ h)
    (hneed : ((eff ci.cb).need0 : Int) + (eff ci.cb).needN * ci.n ≤ lb) :
    ∃ h', stepH eff h ci = some h' ∧ ((eff ci.cb).reset = true → h' = 0) ∧
      ((eff ci.cb).reset = false → ((eff ci.cb).bump = true → lb ≤ h') ∧
        ((eff ci.cb).bump = false → lb + ((eff ci.cb).d0 + (eff ci.cb).dN * ci.n) ≤ h' ∨
          (eff ci.cb).canThrow = true ∧ lb + ((eff ci.cb).t0 + (eff ci.cb).tN * ci.n) ≤ h')) := by
  have hle : (((eff ci.cb).need0 + (eff ci.cb).needN * ci.n : Nat) : Int) ≤ h := by
    rw [Int.natCast_add, Int.natCast_mul]; omega
  refine ⟨_, if_pos hle, ?_⟩
  cases (eff ci.cb).reset
  · cases (eff ci.cb).bump
    · cases (eff ci.cb).canThrow
      · simp; omega
      · cases ci.thrown
        · simp; omega
        · simp; omega
    · simp; omega
  · simp

theorem sat_abs_zero {h1 : Int} (hnn : 0 ≤ h1) : Sat vals h0 (.abs 0) h1 := hnn

/-- the outcomes of `stepCall` that are the same for both kinds of state: a reset leaves `abs 0`, a bump the state as it
    was; `other` is what the check answers for a callback that does neither -/
theorem sat_reset_bump {reset bump : Bool} {other : Option AState} {h' : Int}
    (hstep : (if reset = true then some (.abs 0) else if bump = true then some st else other) = some st')
    (hreset : reset = true → h' = 0) (hbump : reset = false → bump = true → Sat vals h0 st h')
    (hother : reset = false → bump = false → other = some st' → Sat vals h0 st' h') : Sat vals h0 st' h' := by
  cases reset
  case true =>
    cases hstep
    exact sat_abs_zero (Int.le_of_eq (hreset rfl).symm)
  cases bump
  case true =>
    cases hstep
    exact hbump rfl rfl
  exact hother rfl rfl hstep

theorem stepCall_sound (hwf : ∀ cb, (eff cb).wf = true) {c : Call CB} {ci : CallInst CB}
    (hstep : stepCall eff needA st c = some st') (hadm : c.admits vals ci) (hA : (needA : Int) ≤ h0)
    (hs : Sat vals h0 st h) :
    ∃ h', stepH eff h ci = some h' ∧ Sat vals h0 st' h' := by
  cases hok : argOk (eff ci.cb) c.arg
  · simp [stepCall, ← hadm.1, hok] at hstep
  have hN := arg_scale_eval (vals := vals) hok hadm (.inl rfl)
  have hD := arg_scale_eval (vals := vals) hok hadm (.inr (.inl rfl))
  have hT := arg_scale_eval (vals := vals) hok hadm (.inr (.inr rfl))
  -- cases on each condition of `stepCall`, then `simp` at `hstep`: `split at hstep` is slow to check on a term of this size
  cases st with
  | abs a =>
    simp only [stepCall, ← hadm.1, hok, Bool.not_true, Bool.false_eq_true, ↓reduceIte] at hstep
    cases hc : decide ((eff ci.cb).needN = 0) && decide ((eff ci.cb).dN = 0) && decide ((eff ci.cb).tN = 0) &&
        decide ((eff ci.cb).need0 ≤ a)
    · simp [hc] at hstep
    simp only [hc, Bool.not_true, Bool.false_eq_true, ↓reduceIte] at hstep
    simp only [Bool.and_eq_true, decide_eq_true_eq] at hc
    obtain ⟨⟨⟨hnN, hdN⟩, htN⟩, hna⟩ := hc
    obtain ⟨h', hh', hreset, hrest⟩ := stepH_lower (eff := eff) (ci := ci) (lb := a) hs (by rw [hnN]; omega)
    refine ⟨h', hh', sat_reset_bump hstep hreset (fun hr => (hrest hr).1) fun hr hb hstep => ?_⟩
    have hcase := (hrest hr).2 hb
    cases hstep
    simp only [hdN, htN, Int.zero_mul, Int.add_zero] at hcase
    -- `wf` keeps `a + d0` and `a + t0` from going below 0, where `toNat` would cut them off
    have hw := hwf ci.cb
    simp only [Eff.wf, Bool.and_eq_true, decide_eq_true_eq] at hw
    cases hct : (eff ci.cb).canThrow
    · simp only [hct, Bool.false_eq_true, false_and, or_false] at hcase
      simp only [Sat, Bool.false_eq_true, ↓reduceIte]
      omega
    · simp only [Sat, ↓reduceIte]
      omega
  | rel f =>
    simp only [stepCall, ← hadm.1, hok, Bool.not_true, Bool.false_eq_true, ↓reduceIte] at hstep
    cases hneed : ((f.add (Lin.const needA)).sub
        ((Lin.const (eff ci.cb).need0).add ((argLin c.arg).scale (eff ci.cb).needN))).nonneg
    · simp [hneed] at hstep
    simp only [hneed, Bool.not_true, Bool.false_eq_true, ↓reduceIte] at hstep
    have hneed' := nonneg_sound hneed vals
    simp only [eval_sub, eval_add, eval_const, hN] at hneed'
    simp only [Sat] at hs
    obtain ⟨h', hh', hreset, hrest⟩ :=
      stepH_lower (eff := eff) (ci := ci) (lb := h0 + f.eval vals) hs (by omega)
    refine ⟨h', hh', sat_reset_bump hstep hreset (fun hr => (hrest hr).1) fun hr hb hstep => ?_⟩
    have hcase := (hrest hr).2 hb
    cases hct : (eff ci.cb).canThrow
    case false =>
      simp only [hct, Bool.not_false, ↓reduceIte, Option.some.injEq] at hstep
      subst hstep
      simp only [hct, Bool.false_eq_true, false_and, or_false] at hcase
      simp only [Sat, eval_add, eval_const, hD]
      omega
    -- `canThrow`: the check keeps whichever outcome the other one dominates
    simp only [hct, Bool.not_true, Bool.false_eq_true, ↓reduceIte] at hstep
    split at hstep
    · rename_i hdom
      cases hstep
      have := nonneg_sound hdom vals
      simp only [eval_sub, eval_add, eval_const, hD, hT] at this
      simp only [Sat, eval_add, eval_const, hT]
      omega
    split at hstep
    · rename_i hdom
      cases hstep
      have := nonneg_sound hdom vals
      simp only [eval_sub, eval_add, eval_const, hD, hT] at this
      simp only [Sat, eval_add, eval_const, hD]
      omega
    · exact absurd hstep (by simp)

theorem stepCalls_sound (hwf : ∀ cb, (eff cb).wf = true)
    (hA : (needA : Int) ≤ h0) :
    ∀ {cs : List (Call CB)} {cis : List (CallInst CB)}, CallsAdmit vals cs cis →
    ∀ {st st' : AState} {h : Int}, stepCalls eff needA cs st = some st' → Sat vals h0 st h →
    ∃ h', runH eff h cis = some h' ∧ Sat vals h0 st' h' := by
  intro cs cis hadm
  induction hadm with
  | nil =>
    intro st st' h hstep hs
    simp only [stepCalls, Option.some.injEq] at hstep
    exact ⟨h, rfl, hstep ▸ hs⟩
  | @cons c cs ci cis hc _ ih =>
    intro st st' h hstep hs
    simp only [stepCalls] at hstep
    cases h1 : stepCall eff needA st c with
    | none => simp [h1] at hstep
    | some st1 =>
      simp only [h1, Option.bind_some] at hstep
      obtain ⟨h', hh', hs'⟩ := stepCall_sound hwf h1 hc hA hs
      obtain ⟨h'', hh'', hs''⟩ := ih hstep hs'
      exact ⟨h'', by simp [runH, hh', hh''], hs''⟩

theorem checkItems_ok {items : List (Item CB NT)}
    (h : checkItems sig eff needA dipA loA pos items st = some st') : okState dipA loA st = true := by
  cases hok : okState dipA loA st
  · cases items <;> simp [checkItems, hok] at h
  · rfl

theorem checkItems_cons {it : Item CB NT} {rest : List (Item CB NT)}
    (h : checkItems sig eff needA dipA loA pos (it :: rest) st = some st') :
    ∃ st1, stepItem sig eff needA dipA pos st it = some st1 ∧ checkItems sig eff needA dipA loA (pos + 1) rest st1 = some st' := by
  simp only [checkItems, checkItems_ok h, ↓reduceIte] at h
  cases h1 : stepItem sig eff needA dipA pos st it with
  | none => simp [h1] at h
  | some st1 => exact ⟨st1, rfl, by simpa [h1] using h⟩

theorem finalOk_bound {h1 : Int} {attr : Lin} (hfin : finalOk loA attr st = true) (hs : Sat vals h st h1) :
    ∀ c0 c1, loA = some (c0, c1) → h + c0 + c1 * attr.eval vals ≤ h1 := by
  intro c0 c1 hlo
  subst hlo
  cases st with
  | abs a => simp [finalOk] at hfin
  | rel g =>
    simp only [finalOk] at hfin
    have := nonneg_sound hfin vals
    simp only [eval_sub, eval_const, eval_scale] at this
    simp only [Sat] at hs
    omega

theorem meets_of_lbProd {p : Prod CB NT} (hlb : lbProd sig eff p = true) {b : Bool}
    (hit : ItemsSound sig eff b vals 0 p.items tr) :
    Meets eff (sig p.lhs) b (p.attr.eval vals) tr := by
  intro h hentry
  simp only [lbProd, Bool.and_eq_true, decide_eq_true_eq] at hlb
  obtain ⟨⟨_, hdip⟩, hfin⟩ := hlb
  cases hci : checkItems sig eff (sig p.lhs).need (sig p.lhs).dip (sig p.lhs).lo 0 p.items (.rel Lin.zero) with
  | none => simp [hci] at hfin
  | some stp =>
    simp only [hci] at hfin
    obtain ⟨h', hr, hnn, hsat, hfloor⟩ := hit _ _ _ h h _ stp hci hentry hdip (by simp [Sat])
    exact ⟨h', hr, hnn, hfloor, fun hb => finalOk_bound hfin (hsat hb)⟩

theorem stepItem_lo_none {isP : Bool}
    (hst : stepItem sig eff needA dipA pos st (if isP then Item.pnt B else Item.nt B) = some st1)
    (hlo : (sig B).lo = none) : st1 = .abs 0 := by
  cases isP <;> cases st
  all_goals
    -- the guard of the state's kind, and the answer
    simp [stepItem, hlo] at hst
    exact hst.2.symm

/-- `stepItem` at a nonterminal (`nt`, or `pnt` if `isP`), read semantically: the child's entry requirement holds, a
    `rel` state passed the dip guard, without an exit promise the next state is `abs 0`, and otherwise the next state
    is satisfied by every `h1 ≥ 0` that keeps the promise (`nt`: `c0 + c1*attr` above `h`; `pnt`: `dip` below `h`) -/
theorem stepItem_child {isP : Bool}
    (hst : stepItem sig eff needA dipA pos st (if isP then Item.pnt B else Item.nt B) = some st1)
    (hA : (needA : Int) ≤ h0) (hs : Sat vals h0 st h) :
    ((sig B).need : Int) ≤ h ∧ (∀ f, st = .rel f → ((sig B).dip : Int) ≤ f.eval vals + dipA) ∧
    ((sig B).lo = none → st1 = .abs 0) ∧
    ∀ h1 : Int, 0 ≤ h1 → (∀ c0 c1, (sig B).lo = some (c0, c1) →
      (if isP then h - (sig B).dip else h + c0 + c1 * ((vals.getD pos 0 : Nat) : Int)) ≤ h1) → Sat vals h0 st1 h1 := by
  have hvnn : (0 : Int) ≤ ((vals.getD pos 0 : Nat) : Int) := Int.natCast_nonneg _
  cases st with
  | abs a =>
    simp only [Sat] at hs
    cases hg : decide ((sig B).need ≤ a)
    · cases isP <;> simp [stepItem, hg] at hst
    have hna : (sig B).need ≤ a := of_decide_eq_true hg
    refine ⟨by omega, fun f hf => (nomatch hf), stepItem_lo_none hst, fun h1 hnn hb => ?_⟩
    cases hlo : (sig B).lo with
    | none => exact stepItem_lo_none hst hlo ▸ sat_abs_zero hnn
    | some cc =>
      obtain ⟨c0, c1⟩ := cc
      have hb' := hb c0 c1 hlo
      cases isP
      · simp only [stepItem, hg, hlo, Bool.not_true, Bool.false_eq_true, ↓reduceIte] at hst hb'
        split at hst
        · rename_i hc1
          cases hst
          have := Int.mul_nonneg hc1 hvnn
          simp only [Sat]
          omega
        · cases hst
          exact sat_abs_zero hnn
      · simp only [stepItem, hg, hlo, Bool.not_true, Bool.false_eq_true, ↓reduceIte, Option.some.injEq] at hst hb'
        subst hst
        simp only [Sat]
        omega
  | rel f =>
    simp only [Sat] at hs
    cases hg : ((f.add (Lin.const needA)).sub (Lin.const (sig B).need)).nonneg &&
        ((f.add (Lin.const dipA)).sub (Lin.const (sig B).dip)).nonneg
    · cases isP <;> simp [stepItem, hg] at hst
    have hn := nonneg_sound (Bool.and_eq_true_iff.mp hg).1 vals
    have hd := nonneg_sound (Bool.and_eq_true_iff.mp hg).2 vals
    simp only [eval_sub, eval_add, eval_const] at hn hd
    refine ⟨by omega, fun f' hf => by cases hf; omega, stepItem_lo_none hst, fun h1 hnn hb => ?_⟩
    cases hlo : (sig B).lo with
    | none => exact stepItem_lo_none hst hlo ▸ sat_abs_zero hnn
    | some cc =>
      obtain ⟨c0, c1⟩ := cc
      have hb' := hb c0 c1 hlo
      cases isP <;>
      · simp only [stepItem, hg, hlo, Bool.not_true, Bool.false_eq_true, ↓reduceIte, Option.some.injEq] at hst hb'
        subst hst
        simp only [Sat, eval_add, eval_sub, eval_const, eval_unit]
        omega

/-- a child abandoned for good (the rest of the parent with it) keeps the parent's floor: an `abs` state, before or
    after the child, is only accepted when the parent promises nothing (`loA = none`) -/
theorem abandoned_floor {lo : Option (Int × Int)} {dip : Nat} {h1 : Int} (hok : okState dipA loA st = true)
    (hok1 : okState dipA loA st1 = true) (hs : Sat vals h0 st h)
    (hdipg : ∀ f, st = .rel f → (dip : Int) ≤ f.eval vals + dipA) (hnone : lo = none → st1 = .abs 0)
    (hdip : lo.isSome → h - dip ≤ h1) : loA.isSome → h0 - dipA ≤ h1 := by
  intro hloA
  cases st with
  | abs a =>
    cases okState_abs hok
    exact nomatch hloA
  | rel f =>
    cases hlo : lo with
    | none =>
      rw [hnone hlo] at hok1
      cases okState_abs hok1
      exact nomatch hloA
    | some cc =>
      have := hdip (by simp [hlo])
      have := hdipg f rfl
      simp only [Sat] at hs
      omega

theorem run_sound {G : List (Prod CB NT)} (hG : ∀ p ∈ G, lbProd sig eff p = true) (hwf : ∀ cb, (eff cb).wf = true)
    {b : Bool} {items : List (Item CB NT)} (hrun : Run G b vals pos items tr) : ItemsSound sig eff b vals pos items tr := by
  induction hrun with
  | nil =>
    intro needA dipA loA h0 h st st' hc hA hD hs
    have hok := checkItems_ok hc
    simp only [checkItems, hok, ↓reduceIte, Option.some.injEq] at hc
    obtain ⟨h1, h2⟩ := sat_ok hok hA hD hs
    exact ⟨h, rfl, h1, fun _ => hc ▸ hs, h2⟩
  | stop =>
    intro needA dipA loA h0 h st st' hc hA hD hs
    obtain ⟨h1, h2⟩ := sat_ok (checkItems_ok hc) hA hD hs
    exact ⟨h, rfl, h1, fun hb => absurd hb (by simp), h2⟩
  | tok _ ih | free _ ih =>
    intro needA dipA loA h0 h st st' hc hA hD hs
    obtain ⟨st1, hst, hrest⟩ := checkItems_cons hc
    cases hst
    exact ih needA dipA loA h0 h st st' hrest hA hD hs
  | act hadm _ ih =>
    intro needA dipA loA h0 h st st' hc hA hD hs
    obtain ⟨st1, hst, hrest⟩ := checkItems_cons hc
    obtain ⟨h1, hr1, hs1⟩ := stepCalls_sound hwf hA hadm hst hs
    obtain ⟨h2, hr2, hrest2⟩ := ih needA dipA loA h0 h1 st1 st' hrest hA hD hs1
    exact ⟨h2, runH_append_some hr1 hr2, hrest2⟩
  | nt p vals' hp _ hattr _ ihc ihr =>
    intro needA dipA loA h0 h st st' hc hA hD hs
    obtain ⟨st1, hst, hrest⟩ := checkItems_cons hc
    obtain ⟨hentry, _, _, hnext⟩ := stepItem_child (isP := false) hst hA hs
    obtain ⟨h1, hr1, hnn1, _, hexit⟩ := (hattr ▸ meets_of_lbProd (hG p hp) ihc) h hentry
    obtain ⟨h2, hr2, hrest2⟩ := ihr needA dipA loA h0 h1 st1 st' hrest hA hD (hnext h1 hnn1 (hexit rfl))
    exact ⟨h2, runH_append_some hr1 hr2, hrest2⟩
  | ntPart p vals' hp _ ihc =>
    intro needA dipA loA h0 h st st' hc hA hD hs
    obtain ⟨st1, hst, hrest⟩ := checkItems_cons hc
    obtain ⟨hentry, hdipg, hnone, _⟩ := stepItem_child (isP := false) hst hA hs
    obtain ⟨h1, hr1, hnn1, hdip, _⟩ := meets_of_lbProd (hG p hp) ihc h hentry
    exact ⟨h1, hr1, hnn1, fun hb => absurd hb (by simp),
      abandoned_floor (checkItems_ok hc) (checkItems_ok hrest) hs hdipg hnone hdip⟩
  | pnt p vals' hp _ _ ihc ihr =>
    intro needA dipA loA h0 h st st' hc hA hD hs
    obtain ⟨st1, hst, hrest⟩ := checkItems_cons hc
    obtain ⟨hentry, _, _, hnext⟩ := stepItem_child (isP := true) hst hA hs
    obtain ⟨h1, hr1, hnn1, hdip, _⟩ := meets_of_lbProd (hG p hp) ihc h hentry
    obtain ⟨h2, hr2, hrest2⟩ :=
      ihr needA dipA loA h0 h1 st1 st' hrest hA hD (hnext h1 hnn1 fun _ _ hlo => hdip (by simp [hlo]))
    exact ⟨h2, runH_append_some hr1 hr2, hrest2⟩

theorem runNT_meets {G : List (Prod CB NT)} (hG : ∀ p ∈ G, lbProd sig eff p = true) (hwf : ∀ cb, (eff cb).wf = true)
    {part : Bool} {v : Nat} (hrun : RunNT G part B v tr) :
    Meets eff (sig B) part v tr := by
  obtain ⟨p, hp, rfl, vals, hr, hv⟩ := hrun
  exact hv ▸ meets_of_lbProd (hG p hp) (run_sound hG hwf hr)

/-- hand-over of operands to whoever called the parser (the XML reader's `proc_location`) -/
theorem runNT_pushes {G : List (Prod CB NT)} (hG : ∀ p ∈ G, lbProd sig eff p = true) (hwf : ∀ cb, (eff cb).wf = true)
    {v : Nat} (hrun : RunNT G false B v tr) {c0 : Int}
    (hlo : (sig B).lo = some (c0, 0)) (hneed : (sig B).need = 0) (hh : 0 ≤ h) :
    ∃ h1, runH eff h tr = some h1 ∧ h + c0 ≤ h1 := by
  obtain ⟨h1, hr, _, _, hexit⟩ := runNT_meets hG hwf hrun h (by rw [hneed]; exact hh)
  exact ⟨h1, hr, by simpa using hexit rfl c0 0 hlo⟩

end sound
end UtapModel.C01
