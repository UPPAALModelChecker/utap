/- Expression-level lemmas for Props/C17.lean (about Model/Feature.lean): what each visitor of the checker sees of the
   sub-expressions `walk` enumerates. Core Lean only. -/
import UtapModel.Model.Feature
import UtapModel.Lemmas.ListHalf

namespace UtapModel.Feature

theorem FExpr.induct {P : FExpr → Prop} (empty : P .empty)
    (node : ∀ k f v sub, (∀ e ∈ sub, P e) → P (.node k f v sub)) : ∀ e, P e :=
  @FExpr.rec P (fun es => ∀ e ∈ es, P e) empty node (fun _ h => nomatch h)
    (fun _ _ he hes => List.forall_mem_cons.mpr ⟨he, hes⟩)

theorem walkL_eq (c : Bool) : ∀ es, walkL c es = es.flatMap (walk false c) :=
  eq_flatMap rfl fun _ _ => rfl

theorem updateElemsL_eq : ∀ es, updateElemsL es = es.flatMap updateElems :=
  eq_flatMap rfl fun _ _ => rfl

theorem usesFpL_eq (fp : List Kind) : ∀ es, usesFpL fp es = es.any (usesFp fp) :=
  eq_any rfl fun _ _ => rfl

theorem guardHitRecL_eq (cfg : Cfg) : ∀ es, guardHitRecL cfg es = es.any (guardHitRec cfg) :=
  eq_any rfl fun _ _ => rfl

theorem visitAssignmentL_eq (cfg : Cfg) : ∀ es, visitAssignmentL cfg es = es.any (visitAssignment cfg) :=
  eq_any rfl fun _ _ => rfl

theorem mem_walkL {c : Bool} {es : List FExpr} {pe : Pos × FExpr} : pe ∈ walkL c es ↔ ∃ e ∈ es, pe ∈ walk false c e := by
  rw [walkL_eq, List.mem_flatMap]

theorem mem_walk_node {r c : Bool} {k : Kind} {f : Flags} {v : CVal} {sub : List FExpr} {pe : Pos × FExpr} :
    pe ∈ walk r c (.node k f v sub) ↔
      pe = (⟨r, c⟩, .node k f v sub) ∨ ∃ e ∈ sub, pe ∈ walk false (c && k == .kAND) e := by
  rw [walk, List.mem_cons, mem_walkL]

theorem walk_pos {r c : Bool} {e : FExpr} {pe : Pos × FExpr} (h : pe ∈ walk r c e) :
    (pe.1.root = true → r = true ∧ pe.2 = e) ∧ (pe.1.conj = true → c = true) := by
  induction e using FExpr.induct generalizing r c with
  | empty => cases h
  | node k f v sub ih =>
    rcases mem_walk_node.mp h with rfl | ⟨e, he, h⟩
    · exact ⟨fun hr => ⟨hr, rfl⟩, id⟩
    · have := ih e he h
      exact ⟨fun hr => (Bool.false_ne_true (this.1 hr).1).elim, fun hc => (Bool.and_eq_true_iff.mp (this.2 hc)).1⟩

theorem walk_conj_false : ∀ (r : Bool) (e : FExpr) (pe : Pos × FExpr), pe ∈ walk r false e → pe.1.conj = false :=
  fun _ _ _ h => Bool.eq_false_iff.mpr fun hc => Bool.false_ne_true ((walk_pos h).2 hc)

theorem walk_nonempty {r c : Bool} {e : FExpr} {pe : Pos × FExpr} (h : pe ∈ walk r c e) : e.isEmpty = false := by
  cases e with
  | empty => cases h
  | node => rfl

/-- `hs`: the scan `s` tests `p` at every node and descends into every child. -/
theorem scan_of_occ {p s : FExpr → Bool}
    (hs : ∀ k f v sub, p (.node k f v sub) = true ∨ sub.any s = true → s (.node k f v sub) = true)
    {r c : Bool} {e : FExpr} {pe : Pos × FExpr} (h : pe ∈ walk r c e) (hp : p pe.2 = true) : s e = true := by
  induction e using FExpr.induct generalizing r c with
  | empty => cases h
  | node k f v sub ih =>
    rcases mem_walk_node.mp h with rfl | ⟨e, he, h⟩
    · exact hs k f v sub (Or.inl hp)
    · exact hs k f v sub (Or.inr (List.any_eq_true.mpr ⟨e, he, ih e he h⟩))

theorem scanL_of_occ {p s : FExpr → Bool}
    (hs : ∀ k f v sub, p (.node k f v sub) = true ∨ sub.any s = true → s (.node k f v sub) = true)
    {c : Bool} {es : List FExpr} {pe : Pos × FExpr} (h : pe ∈ walkL c es) (hp : p pe.2 = true) : es.any s = true :=
  have ⟨e, he, h⟩ := mem_walkL.mp h
  List.any_eq_true.mpr ⟨e, he, scan_of_occ hs h hp⟩

theorem usesFp_node (fp : List Kind) (k : Kind) (f : Flags) (v : CVal) (sub : List FExpr)
    (h : FExpr.isDouble (.node k f v sub) = true ∨ sub.any (usesFp fp) = true) : usesFp fp (.node k f v sub) = true := by
  rw [usesFp, usesFpL_eq]
  rcases h with h | h
  · rw [show f.dbl = true from h]
    rfl
  · rw [h, Bool.or_true]

theorem guardHitRec_node (cfg : Cfg) (k : Kind) (f : Flags) (v : CVal) (sub : List FExpr)
    (h : guardHitAt cfg (.node k f v sub) = true ∨ sub.any (guardHitRec cfg) = true) :
    guardHitRec cfg (.node k f v sub) = true := by
  rw [guardHitRec, guardHitRecL_eq]
  exact Bool.or_eq_true_iff.mpr h

theorem usesFpL_of_occ (fp : List Kind) : ∀ (c : Bool) (es : List FExpr) (pe : Pos × FExpr),
    pe ∈ walkL c es → pe.2.isDouble = true → usesFpL fp es = true :=
  fun _ es _ h hd => usesFpL_eq fp es ▸ scanL_of_occ (usesFp_node fp) h hd

theorem usesFp_of_isDouble (fp : List Kind) (e : FExpr) (h : e.isDouble = true) : usesFp fp e = true := by
  cases e with
  | empty => cases h
  | node k f v sub => exact usesFp_node fp k f v sub (Or.inl h)

theorem usesFp_of_hasFp (fp : List Kind) (e : FExpr) (h : hasFp e = true) : usesFp fp e = true := by
  obtain ⟨pe, hpe, hd⟩ := List.any_eq_true.mp h
  exact scan_of_occ (usesFp_node fp) hpe hd

theorem guardHitRecL_of_occ (cfg : Cfg) : ∀ (c : Bool) (es : List FExpr) (pe : Pos × FExpr),
    pe ∈ walkL c es → guardHitAt cfg pe.2 = true → guardHitRecL cfg es = true :=
  fun _ es _ h hd => guardHitRecL_eq cfg es ▸ scanL_of_occ (guardHitRec_node cfg) h hd

theorem guardHitAt_of_cmp (cfg : Cfg) (e : FExpr) (h : isCmpClockFp e = true) (hk : cfg.guardKinds.contains (opOf e) = true) :
    guardHitAt cfg e = true := by
  match e, h with
  | .node k f v [a, b], h =>
    simp only [isCmpClockFp, Bool.and_eq_true, Bool.or_eq_true, Bool.not_eq_true'] at h
    obtain ⟨⟨⟨_, ha⟩, hb⟩, hab⟩ := h
    have hfp : usesFpL cfg.fpKinds [a, b] = true := by
      rw [usesFpL_eq, List.any_eq_true]
      exact hab.elim (fun h => ⟨b, by simp, usesFp_of_hasFp _ b h.2⟩) fun h => ⟨a, by simp, usesFp_of_hasFp _ a h.1⟩
    rw [guardHitAt, show cfg.guardKinds.contains k = true from hk, hfp, show FExpr.arg [a, b] 0 = a from rfl,
      show FExpr.arg [a, b] 1 = b from rfl, ha, hb, Bool.or_false, Bool.and_false]
    rfl

theorem detects_cmp {cfg : Cfg} {ctx : Ctx} {r : Bool} {op : Kind} :
    detects cfg (.cmp ctx r op) = true ↔
      (ctx = .inv → cfg.invariantCompared = true) ∧ (r = true ∨ cfg.guardRecursive = true) ∧
        cfg.guardKinds.contains op = true := by
  cases ctx <;> cases r <;> simp [detects, and_assoc]

theorem visitGuard_of_cmp (cfg : Cfg) (ctx : Ctx) {g : FExpr} {pe : Pos × FExpr} (h : pe ∈ occs g)
    (hc : isCmpClockFp pe.2 = true) (hd : detects cfg (.cmp ctx pe.1.root (opOf pe.2)) = true) :
    visitGuard cfg g = true ∧ (ctx = .inv → cfg.invariantCompared = true) := by
  obtain ⟨hi, hp, hk⟩ := detects_cmp.mp hd
  have hit := guardHitAt_of_cmp cfg pe.2 hc hk
  refine ⟨?_, hi⟩
  unfold visitGuard
  split
  · exact scan_of_occ (guardHitRec_node cfg) h hit
  next hrec => exact ((walk_pos h).1 (hp.resolve_right hrec)).2 ▸ hit

theorem visitAssignment_of_elem (cfg : Cfg) {u a : FExpr} (h : a ∈ updateElems u) (ha : visitAssignment cfg a = true) :
    visitAssignment cfg u = true := by
  induction u using FExpr.induct with
  | empty => cases h
  | node k f v sub ih =>
    rw [updateElems] at h
    split at h
    next hk =>
      rw [updateElemsL_eq, List.mem_flatMap] at h
      obtain ⟨e, he, h⟩ := h
      cases eq_of_beq hk
      rw [visitAssignment, visitAssignmentL_eq]
      exact List.any_eq_true.mpr ⟨e, he, ih e he h⟩
    next => rwa [← List.mem_singleton.mp h]

theorem visitAssignmentL_of_elem (cfg : Cfg) : ∀ (es : List FExpr) (a : FExpr), a ∈ updateElemsL es →
    visitAssignment cfg a = true → visitAssignmentL cfg es = true := by
  intro es a h ha
  rw [updateElemsL_eq, List.mem_flatMap] at h
  obtain ⟨e, he, h⟩ := h
  rw [visitAssignmentL_eq]
  exact List.any_eq_true.mpr ⟨e, he, visitAssignment_of_elem cfg h ha⟩

theorem visitAssignment_of_assignFp (cfg : Cfg) (a : FExpr) (h : isAssignFp a = true)
    (hd : detects cfg (.assign (usesHybrid a)) = true) : visitAssignment cfg a = true := by
  match a, h with
  | .node k f v [l, r], h =>
    simp only [isAssignFp, Bool.and_eq_true, Bool.not_eq_true'] at h
    obtain ⟨⟨hk, hl⟩, hr⟩ := h
    have hfp := usesFp_node cfg.fpKinds k f v [l, r] (Or.inr (List.any_eq_true.mpr ⟨r, by simp, usesFp_of_hasFp _ r hr⟩))
    simp only [detects, Bool.or_eq_true, Bool.not_eq_true'] at hd
    rw [visitAssignment, if_pos hk, hfp, Bool.true_and]
    split
    · exact (Bool.not_eq_true' _).mpr hl
    next ht => exact (Bool.not_eq_true' _).mpr (hd.resolve_right ht)

theorem visitVariable_of_initFp (cfg : Cfg) (f : SymFlags) (init : FExpr) (h : isInitFp f init = true)
    (hd : detects cfg (.init (!f.clkD)) = true) : visitVariable cfg f init = true := by
  simp only [isInitFp, Bool.and_eq_true] at h
  obtain ⟨pe, hpe, _⟩ := List.any_eq_true.mp h.2
  simp only [detects, Bool.or_eq_true, Bool.not_not] at hd
  simp only [visitVariable, walk_nonempty hpe, usesFp_of_hasFp cfg.fpKinds init h.2, Bool.not_false, Bool.and_true]
  split
  · exact h.1
  next ht => exact hd.resolve_right ht

/-- `isRateDisallowedInSymbolic` at one node -/
def rateAt (cfg : Cfg) : FExpr → Option Bool
  | .empty => some false
  | .node k _ _ sub => if k == .kEQ then rateAtEq cfg sub else some false

/-- `isRateDisallowedInSymbolic` once the two operands of the rate equation are told apart -/
theorem rateJudge_eq (cfg : Cfg) (clock rate : FExpr) (hc : clock.kindIs .kRATE = true) :
    (if (FExpr.arg clock.children 0).flags.symHyb then some false
     else if !rate.kindIs .kCONSTANT then some false
     else match rate.val with
       | .int v => some (v != 0 && v != 1)
       | .dbl t => if cfg.rateDoubleHandled then some (t != 0 && t != 1) else none
       | .none => some false) =
    if nonHybridRate clock && isDblConst rate && !cfg.rateDoubleHandled then none
    else some (nonHybridRate clock && constOther rate) := by
  simp only [nonHybridRate, isDblConst, constOther, hc]
  cases (FExpr.arg clock.children 0).flags.symHyb
  · cases rate.kindIs .kCONSTANT
    · rfl
    · cases rate.val with
      | dbl t => cases cfg.rateDoubleHandled <;> rfl
      | _ => rfl
  · rfl

theorem rateAt_eq (cfg : Cfg) (e : FExpr) :
    rateAt cfg e = if isDblRate e && !cfg.rateDoubleHandled then none else some (isBadRate e) := by
  cases e with
  | empty => rfl
  | node k f v sub =>
    simp only [rateAt, rateAtEq, isDblRate, isBadRate, rateSides]
    by_cases hk : (k == .kEQ) = true
    · by_cases ha : (FExpr.arg sub 0).kindIs .kRATE = true
      · simp only [hk, ha, if_true, Bool.true_or]
        exact rateJudge_eq cfg _ _ ha
      · by_cases hb : (FExpr.arg sub 1).kindIs .kRATE = true
        · simp only [hk, ha, hb, if_true, Bool.or_true]
          exact rateJudge_eq cfg _ _ hb
        · simp [hk, ha, hb]
    · simp [hk]

theorem rateAt_eq_none {cfg : Cfg} {e : FExpr} (h : rateAt cfg e = none) :
    isDblRate e = true ∧ cfg.rateDoubleHandled = false := by
  rw [rateAt_eq] at h
  split at h
  next hd => simpa using hd
  · cases h

theorem rateScanL_false {cfg : Cfg} {es : List FExpr} (h : rateScanL cfg es = some false) :
    ∀ e ∈ es, rateScan cfg e = some false := by
  induction es with
  | nil => exact fun _ h => nomatch h
  | cons x xs ih =>
    rw [rateScanL] at h
    split at h
    · cases h
    · cases h
    next hx => exact fun e he => (List.mem_cons.mp he).elim (· ▸ hx) (ih h e)

theorem rateScanL_throws {cfg : Cfg} {es : List FExpr} (h : rateScanL cfg es = none) : ∃ e ∈ es, rateScan cfg e = none := by
  induction es with
  | nil => cases h
  | cons x xs ih =>
    rw [rateScanL] at h
    split at h
    next hx => exact ⟨x, List.mem_cons_self, hx⟩
    · cases h
    next =>
      obtain ⟨e, he, h⟩ := ih h
      exact ⟨e, List.mem_cons_of_mem _ he, h⟩

theorem rateScan_node (cfg : Cfg) (k : Kind) (f : Flags) (v : CVal) (sub : List FExpr) :
    rateScan cfg (.node k f v sub) =
      match rateAt cfg (.node k f v sub) with
      | some false => if k == .kAND then rateScanL cfg sub else some false
      | r => r := by
  rw [rateScan, rateAt]
  split
  next hk =>
    cases eq_of_beq hk
    split
    next h => exact h
    · rfl
  next => rfl

theorem rateScan_false {cfg : Cfg} {r : Bool} {e : FExpr} {pe : Pos × FExpr} (h : rateScan cfg e = some false)
    (hpe : pe ∈ walk r true e) (hc : pe.1.conj = true) : rateAt cfg pe.2 = some false := by
  induction e using FExpr.induct generalizing r with
  | empty => cases hpe
  | node k f v sub ih =>
    rw [rateScan_node] at h
    split at h
    next hat =>
      rcases mem_walk_node.mp hpe with rfl | ⟨e, he, hpe⟩
      · exact hat
      · have hk : (k == .kAND) = true := (Bool.and_eq_true_iff.mp ((walk_pos hpe).2 hc)).2
        rw [if_pos hk] at h
        rw [hk] at hpe
        exact ih e he (rateScanL_false h e he) hpe
    next hne => exact absurd h hne

theorem rateScanL_of_conj (cfg : Cfg) : ∀ (es : List FExpr) (pe : Pos × FExpr),
    pe ∈ walkL true es → pe.1.conj = true → rateAt cfg pe.2 = some true → rateScanL cfg es ≠ some false := by
  intro es pe h hc hr hf
  obtain ⟨e, he, h⟩ := mem_walkL.mp h
  cases (rateScan_false (rateScanL_false hf e he) h hc).symm.trans hr

theorem rateScan_throws {cfg : Cfg} (r c : Bool) {e : FExpr} (h : rateScan cfg e = none) :
    ∃ pe ∈ walk r c e, rateAt cfg pe.2 = none := by
  induction e using FExpr.induct generalizing r c with
  | empty => cases h
  | node k f v sub ih =>
    rw [rateScan_node] at h
    split at h
    next =>
      split at h
      next =>
        obtain ⟨e, he, h⟩ := rateScanL_throws h
        obtain ⟨pe, hpe, hn⟩ := ih e he false _ h
        exact ⟨pe, mem_walk_node.mpr (Or.inr ⟨e, he, hpe⟩), hn⟩
      · cases h
    next => exact ⟨_, mem_walk_node.mpr (Or.inl rfl), h⟩

theorem rateScanL_none (cfg : Cfg) : ∀ (c : Bool) (es : List FExpr), rateScanL cfg es = none →
    ∃ pe, pe ∈ walkL c es ∧ isDblRate pe.2 = true ∧ cfg.rateDoubleHandled = false := by
  intro c es h
  obtain ⟨e, he, h⟩ := rateScanL_throws h
  obtain ⟨pe, hpe, hn⟩ := rateScan_throws false c h
  exact ⟨pe, mem_walkL.mpr ⟨e, he, hpe⟩, rateAt_eq_none hn⟩

end UtapModel.Feature
