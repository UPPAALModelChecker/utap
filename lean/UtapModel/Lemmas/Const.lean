/-
C12: the model of `Model/Const.lean`.  Each generated table is tied to the specification's kind lists once, by `split` on
the table's own `match` (one case per row; `cases` on `Kind` makes one per kind) or by evaluation over the members of a
list: complete, and re-done whenever `Gen/ConstGen.lean` changes.  Everything about types and expressions is by
structural induction (no bound).
-/
import UtapModel.Model.Const

namespace UtapModel.Const
open UtapModel UtapModel.ConstGen

theorem mutClause_eq (k : Kind) : mutClause k =
    if nonMutableKinds.contains k then .retFalse else if k == .kRECORD then .allChildren else .child0 true := by
  unfold mutClause
  split
  rotate_right
  · -- the default row, from the inequalities `split` leaves for it: as `k = K → False`, which `simp` uses only as `¬k = K`
    simp only [imp_false] at *
    simp [nonMutableKinds, *]
  all_goals rfl

theorem getSubFieldClause_wrapper :
    ∀ k ∈ wrapperKinds, k ≠ .kARRAY → k ≠ .kRANGE → getSubFieldClause k ≠ .direct := by decide

theorem writeGuard_writeKinds (k : Kind) (h : isWriteKind k = true) : writeGuard k = true :=
  (by decide : ∀ k ∈ writeKinds, writeGuard k = true) k (List.contains_iff_mem.1 h)

theorem modLvClause_assignKinds : ∀ k ∈ assignKinds, modLvClause k = .always := by decide

theorem binderForcedConst_all : ∀ s, binderForcedConst s = true := by
  intro s; cases s <;> rfl

/-- all the two tables differ in: `isLValue` answers `always` where `isModifiableLValue` looks further, and drops the
    process test of DOT; a kind without a row in `isModifiableLValue` is never modifiable -/
theorem modLv_lv_rows (k : Kind) : modLvClause k = .never ∨ lvClause k = .always ∨ lvClause k = modLvClause k ∨
    modLvClause k = .sub0NotProcess ∧ lvClause k = .sub0 := by
  unfold modLvClause
  split
  rotate_right
  · exact .inl rfl
  all_goals decide

theorem unknown_mutable : Ty.unknown.isMutable = true := rfl

theorem isMutable_mk (k : Kind) (cs : Children) : (Ty.mk k cs).isMutable =
    (!nonMutableKinds.contains k && if k == .kRECORD then cs.allMutable else cs.mutable0 true) := by
  rw [Ty.isMutable, mutClause_eq]
  cases nonMutableKinds.contains k
  · cases k == .kRECORD <;> rfl
  · rfl

theorem allMutable_mutable0 : ∀ cs : Children, cs.allMutable = true → cs.mutable0 true = true
  | .nil, _ => rfl
  | .cons _ _ _, h => (Bool.and_eq_true_iff.1 h).1

theorem allMutable_get : ∀ (cs : Children) (i : Nat), cs.allMutable = true → (cs.get i).isMutable = true
  | .nil, _, _ => unknown_mutable
  | .cons _ _ _, 0, h => (Bool.and_eq_true_iff.1 h).1
  | .cons _ _ r, i + 1, h => allMutable_get r i (Bool.and_eq_true_iff.1 h).2

theorem mutable_mk_imp {k : Kind} {cs : Children} (h : (Ty.mk k cs).isMutable = true) :
    nonMutableKinds.contains k = false ∧ cs.mutable0 true = true := by
  rw [isMutable_mk, Bool.and_eq_true, Bool.not_eq_true'] at h
  refine ⟨h.1, ?_⟩
  have h := h.2
  split at h
  · exact allMutable_mutable0 cs h
  · exact h

theorem mutable_mk {k : Kind} {cs : Children} (hk : nonMutableKinds.contains k = false) (h : cs.allMutable = true) :
    (Ty.mk k cs).isMutable = true := by
  rw [isMutable_mk, hk]
  split
  · exact h
  · exact allMutable_mutable0 cs h

theorem not_mutable_cons {k : Kind} {l : String} {t : Ty} {r : Children} (h : t.isMutable = false) :
    (Ty.mk k (.cons l t r)).isMutable = false :=
  Bool.eq_false_iff.2 fun hm => Bool.eq_false_iff.1 h (mutable_mk_imp hm).2

theorem mutable_rewrap {k : Kind} {cs : Children} {x : Ty} (h : (Ty.mk k cs).isMutable = true) (hx : x.isMutable = true) :
    (x.createPrefix k).isMutable = true :=
  mutable_mk (mutable_mk_imp h).1 (Bool.and_eq_true_iff.2 ⟨hx, rfl⟩)

theorem mutable_getSub : ∀ t : Ty, t.isMutable = true → t.getSub.isMutable = true
  | .mk k cs, h => by
    have h0 : cs.sub0.isMutable = true ∧ cs.get0.isMutable = true := by
      cases cs with
      | nil => exact ⟨unknown_mutable, unknown_mutable⟩
      | cons l t r => exact ⟨mutable_getSub t (mutable_mk_imp h).2, (mutable_mk_imp h).2⟩
    rw [Ty.getSub]
    cases getSubClause k with
    | skip => exact h0.1
    | rewrap => exact mutable_rewrap h h0.1
    | direct => exact h0.2

/-- what `recordShape` says of a node: a RECORD, or a kind through which `get_sub(i)` descends to child 0 as well -/
theorem recordShape_mk {k : Kind} {cs : Children} (h : (Ty.mk k cs).recordShape = true) :
    k = .kRECORD ∨ getSubFieldClause k ≠ .direct ∧ cs.recordShape0 = true := by
  rw [Ty.recordShape] at h
  split at h
  · exact .inl (eq_of_beq ‹_›)
  · split at h
    · rename_i hq
      refine .inr ⟨?_, h⟩
      simp only [Bool.or_eq_true, Bool.and_eq_true, beq_iff_eq, bne_iff_ne] at hq
      rcases hq with (rfl | rfl) | ⟨⟨hw, ha⟩, hr⟩
      · decide
      · decide
      · exact getSubFieldClause_wrapper k (List.contains_iff_mem.1 hw) ha hr
    · cases h

theorem mutable_getSubField : ∀ (t : Ty) (i : Nat), t.recordShape = true → t.isMutable = true →
    (t.getSubField i).isMutable = true
  | .mk k cs, i, hs, h => by
    rcases recordShape_mk hs with rfl | ⟨hc, hs⟩
    · exact allMutable_get cs i h
    · cases cs with
      | nil => cases hs
      | cons l t r =>
        have ih := mutable_getSubField t i hs (mutable_mk_imp h).2
        rw [Ty.getSubField]
        cases hc' : getSubFieldClause k with
        | skip => exact ih
        | rewrap => exact mutable_rewrap h ih
        | direct => exact absurd hc' hc

theorem constDeclared_not_mutable : ∀ t : Ty, t.constDeclared = true → t.isMutable = false
  | .mk k cs, h => by
    rw [Ty.constDeclared, Bool.or_eq_true, Bool.and_eq_true] at h
    rcases h with h | ⟨_, h⟩
    · rw [eq_of_beq h]; rfl
    · cases cs with
      | nil => cases h
      | cons l t r => exact not_mutable_cons (constDeclared_not_mutable t h)

/-- what the binder callbacks rely on when they do not add the prefix -/
theorem isCONSTANT_not_mutable : ∀ t : Ty, t.is .kCONSTANT = true → t.isMutable = false
  | .mk k cs, h => by
    cases hk : k == .kCONSTANT with
    | true => rw [eq_of_beq hk]; rfl
    | false =>
      rw [Ty.is, hk, Bool.false_or] at h
      split at h
      · cases h
      · have h := (Bool.and_eq_true_iff.1 h).2
        cases cs with
        | nil => cases h
        | cons l t r => exact not_mutable_cons (isCONSTANT_not_mutable t h)

mutual
  theorem noneOf_mutable : ∀ t : Ty, t.noneOf nonMutableKinds = true → t.isMutable = true
    | .mk k cs, h => by
      rw [Ty.noneOf, Bool.and_eq_true, Bool.not_eq_true'] at h
      exact mutable_mk h.1 (noneOf_allMutable cs h.2)
  theorem noneOf_allMutable : ∀ cs : Children, cs.noneOf nonMutableKinds = true → cs.allMutable = true
    | .nil, _ => rfl
    | .cons l t r, h => by
      rw [Children.noneOf, Bool.and_eq_true] at h
      rw [Children.allMutable, noneOf_mutable t h.1, noneOf_allMutable r h.2]; rfl
end

theorem constDeclared_createPrefix {t : Ty} {k : Kind} (hk : wrapperKinds.contains k = true) (h : t.constDeclared = true) :
    (t.createPrefix k).constDeclared = true := by
  simp only [Ty.createPrefix, Ty.constDeclared, Children.constDeclared0, h, hk, Bool.and_self, Bool.or_true]

theorem constDeclared_getSub : ∀ t : Ty, t.constDeclared = true → t.getSub.constDeclared = true
  | .mk k cs, h => by
    rw [Ty.constDeclared, Bool.or_eq_true, Bool.and_eq_true] at h
    rcases h with h | ⟨hw, h⟩
    · rw [eq_of_beq h]; rfl
    · cases cs with
      | nil => cases h
      | cons l t r =>
        have ih := constDeclared_getSub t h
        rw [Ty.getSub]
        cases getSubClause k with
        | skip => exact ih
        | rewrap => exact constDeclared_createPrefix hw ih
        | direct => exact h

theorem constDeclared_getSubField : ∀ (t : Ty) (i : Nat), t.recordShape = true → t.constDeclared = true →
    (t.getSubField i).constDeclared = true
  | .mk k cs, i, hs, h => by
    rw [Ty.constDeclared, Bool.or_eq_true, Bool.and_eq_true] at h
    rcases h with h | ⟨hw, h⟩
    · rw [eq_of_beq h]; rfl
    · rcases recordShape_mk hs with rfl | ⟨hc, hs⟩
      · cases hw
      · cases cs with
        | nil => cases h
        | cons l t r =>
          have ih := constDeclared_getSubField t i hs h
          rw [Ty.getSubField]
          cases hc' : getSubFieldClause k with
          | skip => exact ih
          | rewrap => exact constDeclared_createPrefix hw ih
          | direct => exact absurd hc' hc

/-- clause `c'` accepts wherever `c` does, the results for the sub-expressions compared likewise -/
def clauseLe (c c' : LvClause) : Prop :=
  ∀ {tm sp r0 r1 r2 ctc eq r0' r1' r2' : Bool}, (r0 = true → r0' = true) → (r1 = true → r1' = true) →
    (r2 = true → r2' = true) → applyClause c tm sp r0 r1 r2 ctc eq = true → applyClause c' tm sp r0' r1' r2' ctc eq = true

theorem clauseLe_refl (c : LvClause) : clauseLe c c := by
  intro tm sp r0 r1 r2 ctc eq r0' r1' r2' h0 h1 h2 h
  cases c <;> simp only [applyClause, Bool.and_eq_true] at h ⊢
  · exact h
  · cases sp
    · exact h0 h
    · cases h
  · exact h0 h
  · exact h1 h
  · exact ⟨h0 h.1, h.2⟩
  · exact ⟨⟨h1 h.1.1, h2 h.1.2⟩, h.2⟩
  · cases h

theorem modLv_le_lv (k : Kind) : clauseLe (modLvClause k) (lvClause k) := by
  rcases modLv_lv_rows k with hk | hk | hk | ⟨hm, hk⟩
  · rw [hk]; exact fun _ _ _ h => nomatch h
  · rw [hk]; exact fun _ _ _ _ => rfl
  · rw [hk]; exact clauseLe_refl _
  · rw [hm, hk]
    intro tm sp r0 r1 r2 ctc eq r0' r1' r2' h0 h1 h2 h
    cases sp
    · exact h0 h
    · cases h

theorem lvPred_mono {T T' : Kind → LvClause} (hT : ∀ k, clauseLe (T k) (T' k)) : ∀ e, lvPred T e = true → lvPred T' e = true
  | .ident .., h | .opaque .., h => hT _ id id id h
  | .dot e _, h | .index e _, h | .unary _ e, h => hT _ (lvPred_mono hT e) id id h
  | .binary _ a b, h => hT _ (lvPred_mono hT a) (lvPred_mono hT b) id h
  | .iif _ _ c a b, h => hT _ (lvPred_mono hT c) (lvPred_mono hT a) (lvPred_mono hT b) h

theorem isModLv_dot (e : Ex) (i : Nat) : isModLv (.dot e i) = (!(typeOf e).isProcess && isModLv e) := by
  show (if (typeOf e).isProcess = true then false else isModLv e) = _
  cases (typeOf e).isProcess <;> rfl

theorem purePath_ind {motive : Ex → Prop} (ident : ∀ n ty, motive (.ident n ty))
    (dot : ∀ e i, (typeOf e).recordShape = true → motive e → motive (.dot e i))
    (index : ∀ e c, motive e → motive (.index e c)) : ∀ e, purePath e = true → motive e
  | .ident n ty, _ => ident n ty
  | .dot e i, h => by
    rw [purePath, Bool.and_eq_true] at h
    exact dot e i h.2 (purePath_ind ident dot index e h.1)
  | .index e c, h => index e c (purePath_ind ident dot index e h)
  | .unary .., h | .binary .., h | .iif .., h | .opaque .., h => nomatch h

theorem sitesOk_eq_all : ∀ e, sitesOk e = (writeSites e).all fun s => isWriteKind s.1 && !writeRefused s.1 s.2
  | .ident .. | .opaque .. => rfl
  | .dot e _ | .index e _ => sitesOk_eq_all e
  | .unary k e => by
    rw [sitesOk, writeSites, List.all_append, ← sitesOk_eq_all e, Bool.and_comm]
    cases hk : isWriteKind k <;> simp [hk]
  | .binary k a b => by
    rw [sitesOk, writeSites, List.all_append, List.all_append, ← sitesOk_eq_all a, ← sitesOk_eq_all b, Bool.and_comm,
      Bool.and_assoc]
    cases hk : isWriteKind k <;> simp [hk]
  | .iif _ _ c a b => by
    rw [sitesOk, writeSites, List.all_append, List.all_append, ← sitesOk_eq_all c, ← sitesOk_eq_all a, ← sitesOk_eq_all b]

end UtapModel.Const
