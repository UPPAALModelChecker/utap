/- `IsLastLE idx pos r` singles out one index of a table.  On a monotone table the binary search of position.cpp stops
   at it (`findLoop_isLastLE`) and the linear reference `findSpec` picks the same entry (`findSpec_of_isLastLE`). -/
import UtapModel.Model.Pos
import UtapModel.Lemmas.ListFacts

namespace UtapModel.Pos

/-- `r` is the index of the last entry with position `≤ pos`, or `0` when there is none. -/
def IsLastLE (idx : Index) (pos r : Nat) : Prop :=
  r < idx.length ∧ (r = 0 ∨ (idx.getD r default).position ≤ pos) ∧
    ∀ j, r < j → j < idx.length → pos < (idx.getD j default).position

theorem IsLastLE.unique {idx : Index} {pos r r' : Nat} (h : IsLastLE idx pos r) (h' : IsLastLE idx pos r') : r = r' := by
  obtain ⟨hr, hle, hgt⟩ := h
  obtain ⟨hr', hle', hgt'⟩ := h'
  rcases Nat.lt_trichotomy r r' with hlt | heq | hlt
  · have := hgt r' hlt hr'
    omega
  · exact heq
  · have := hgt' r hlt hr
    omega

theorem Monotone.getD_le {idx : Index} (hm : Monotone idx) : ∀ {i j : Nat}, i ≤ j → j < idx.length →
    (idx.getD i default).position ≤ (idx.getD j default).position := by
  induction idx with
  | nil => exact fun _ hj => absurd hj (Nat.not_lt_zero _)
  | cons a l ih =>
    intro i j hij hj
    cases j with
    | zero => rw [Nat.le_zero.mp hij]; exact Nat.le_refl _
    | succ j =>
      cases l with
      | nil => exact absurd (Nat.lt_of_succ_lt_succ hj) (Nat.not_lt_zero _)
      | cons b rest =>
        cases i with
        | zero => exact Nat.le_trans hm.1 (ih hm.2 (Nat.zero_le j) (Nat.lt_of_succ_lt_succ hj))
        | succ i => exact ih hm.2 (Nat.le_of_succ_le_succ hij) (Nat.lt_of_succ_lt_succ hj)

theorem Monotone.append_one {idx : Index} {l : Line} (e : Line) (hm : Monotone idx) (hl : idx.getLast? = some l)
    (he : l.position ≤ e.position) : Monotone (idx ++ [e]) := by
  induction idx with
  | nil => cases hl
  | cons a rest ih =>
    cases rest with
    | nil => exact ⟨(Option.some.inj hl : a = l) ▸ he, trivial⟩
    | cons b rest => exact ⟨hm.1, ih hm.2 (by rwa [List.getLast?_cons_cons] at hl)⟩

theorem findLoop_spec {idx : Index} (hm : Monotone idx) (pos : Nat) : ∀ (first last : Nat),
    first < last → last ≤ idx.length →
    (first = 0 ∨ (idx.getD first default).position ≤ pos) →
    (∀ j, last ≤ j → j < idx.length → pos < (idx.getD j default).position) →
    IsLastLE idx pos (findLoop idx pos first last) := by
  intro first last
  induction first, last using findLoop.induct idx pos with
  | case1 first last hc i hp ih =>
    intro _ h2 hf _
    rw [findLoop, dif_pos hc, if_pos hp]
    refine ih (by omega) (by omega) hf fun j hj hjl => ?_
    exact Nat.lt_of_lt_of_le hp (hm.getD_le hj hjl)
  | case2 first last hc i hp ih =>
    intro _ h2 _ hl
    rw [findLoop, dif_pos hc, if_neg hp]
    exact ih (by omega) h2 (Or.inr (Nat.le_of_not_lt hp)) hl
  | case3 first last hc =>
    intro h1 h2 hf hl
    rw [findLoop, dif_neg hc]
    exact ⟨by omega, hf, fun j hj hjl => hl j (by omega) hjl⟩

theorem findLoop_isLastLE {idx : Index} (hm : Monotone idx) (hne : idx ≠ []) (pos : Nat) :
    IsLastLE idx pos (findLoop idx pos 0 idx.length) :=
  findLoop_spec hm pos 0 idx.length (List.length_pos_iff.mpr hne) (Nat.le_refl _) (Or.inl rfl)
    fun _ h1 h2 => absurd h2 (Nat.not_lt.mpr h1)

theorem find_of_isLastLE {idx : Index} (hm : Monotone idx) {pos r : Nat} (h : IsLastLE idx pos r) :
    idx.find pos = .ok (idx.getD r default) := by
  have hne : idx ≠ [] := fun hnil => by rw [hnil] at h; exact Nat.not_lt_zero _ h.1
  rw [h.unique (findLoop_isLastLE hm hne pos)]
  cases idx with
  | nil => exact absurd rfl hne
  | cons _ _ => rfl

theorem IsLastLE.of_getLast {idx more : Index} {l : Line} {pos : Nat} (hl : idx.getLast? = some l)
    (hle : l.position ≤ pos) (hgt : ∀ e ∈ more, pos < e.position) :
    IsLastLE (idx ++ more) pos (idx.length - 1) ∧ (idx ++ more).getD (idx.length - 1) default = l := by
  have hlast : idx.length - 1 < idx.length := by
    cases idx with
    | nil => cases hl
    | cons _ _ => exact Nat.lt_succ_self _
  have hget : (idx ++ more).getD (idx.length - 1) default = l := by
    rw [List.getD_eq_getElem?_getD, List.getElem?_append_left hlast, ← List.getLast?_eq_getElem?, hl]; rfl
  refine ⟨⟨lt_length_append hlast, Or.inr (hget ▸ hle), fun j hj hjl => ?_⟩, hget⟩
  rw [List.length_append] at hjl
  rw [List.getD_eq_getElem?_getD, List.getElem?_append_right (Nat.le_of_pred_lt hj), List.getElem?_eq_getElem (by omega)]
  exact hgt _ (List.getElem_mem _)

/-- `hW`: below 2^32 the `uint32_t` subtraction that gives the column is the plain difference. -/
theorem resolve_of_find {idx : Index} {pos : Nat} {e : Line} (hf : idx.find pos = .ok e) (hle : e.position ≤ pos)
    (hW : pos < W) : resolve idx pos = .ok ⟨e.path, e.line, pos - e.position⟩ := by
  simp only [resolve, hf]
  rw [show pos + W - e.position = pos - e.position + W by omega, Nat.add_mod_right, Nat.mod_eq_of_lt (by omega)]

theorem resolve_append_of_getLast {idx more : Index} {l : Line} {pos : Nat} (hm : Monotone (idx ++ more))
    (hl : idx.getLast? = some l) (hle : l.position ≤ pos) (hgt : ∀ e ∈ more, pos < e.position) (hW : pos < W) :
    resolve (idx ++ more) pos = .ok ⟨l.path, l.line, pos - l.position⟩ := by
  obtain ⟨h, hg⟩ := IsLastLE.of_getLast hl hle hgt
  exact resolve_of_find (hg ▸ find_of_isLastLE hm h) hle hW

theorem findSpec_of_isLastLE : ∀ {idx : Index} {pos : Nat}, Monotone idx → ∀ {r : Nat}, IsLastLE idx pos r →
    findSpec idx pos = some (idx.getD r default) := by
  intro idx pos
  induction idx, pos using findSpec.induct with
  | case1 pos => exact fun _ _ h => absurd h.1 (Nat.not_lt_zero _)
  | case2 e pos =>
    intro _ r h
    rw [Nat.lt_one_iff.mp h.1]; rfl
  | case3 e e' rest pos hp ih =>
    intro hm r ⟨hr, hle, hgt⟩
    rw [findSpec, if_pos hp]
    cases r with
    | zero => exact absurd hp (Nat.not_le.mpr (hgt 1 Nat.one_pos (Nat.succ_lt_succ (Nat.succ_pos _))))
    | succ r =>
      exact ih hm.2 ⟨Nat.lt_of_succ_lt_succ hr, Or.inr (hle.resolve_left (Nat.succ_ne_zero r)),
        fun j hj hjl => hgt (j + 1) (Nat.succ_lt_succ hj) (Nat.succ_lt_succ hjl)⟩
  | case4 e e' rest pos hp =>
    intro hm r ⟨hr, hle, _⟩
    rw [findSpec, if_neg hp]
    cases r with
    | zero => rfl
    | succ r =>
      have := hm.getD_le (i := 1) (Nat.succ_le_succ (Nat.zero_le r)) hr
      exact absurd (Nat.le_trans this (hle.resolve_left (Nat.succ_ne_zero r))) hp

theorem find_eq_findSpec (idx : Index) (hm : Monotone idx) (hne : idx ≠ []) (pos : Nat) :
    ∃ e, idx.find pos = .ok e ∧ findSpec idx pos = some e :=
  ⟨_, find_of_isLastLE hm (findLoop_isLastLE hm hne pos), findSpec_of_isLastLE hm (findLoop_isLastLE hm hne pos)⟩

/-- `resolve` (binary search, uint32 column) agrees with the reference resolution on monotone tables below 2^32 -/
theorem resolve_eq_spec (idx : Index) (hm : Monotone idx) (pos : Nat) (l : Loc) (hpos : pos < W)
    (h : resolveSpec idx pos = some l) (hle : ∀ e, findSpec idx pos = some e → e.position ≤ pos) :
    resolve idx pos = .ok l := by
  have hne : idx ≠ [] := fun hnil => by rw [hnil] at h; cases h
  obtain ⟨e, hf, hs⟩ := find_eq_findSpec idx hm hne pos
  rw [resolveSpec, hs] at h
  cases h
  exact resolve_of_find hf (hle e hs) hpos

end UtapModel.Pos
