/- Lemmas for Props/C11.lean and Props/C13.lean (model: Model/Effect.lean, spec: Model/EffectSpec.lean).
   Each collector of the model gets its membership equation once; the list versions (`…L`) are `flatMap` / `all` / `any`
   of the single versions, so that facts about them are facts about lists and one induction principle (`Expr.ind`)
   serves every walk over expressions. -/
import UtapModel.Model.EffectSpec
import UtapModel.Lemmas.ListHalf
namespace UtapModel.Effect

theorem Expr.ind {motive : Expr → Prop} (node : ∀ k x subs, (∀ e ∈ subs, motive e) → motive (.node k x subs)) :
    ∀ e, motive e :=
  @Expr.rec motive (fun es => ∀ e ∈ es, motive e) node (fun _ h => nomatch h)
    (fun _ _ iha ihas => List.forall_mem_cons.mpr ⟨iha, ihas⟩)

theorem exists_cons_eq {α : Type} {a : α} {l : List α} {p : α → List α → Prop} :
    (∃ a' l', a :: l = a' :: l' ∧ p a' l') ↔ p a l :=
  ⟨fun ⟨_, _, h, hp⟩ => by cases h; exact hp, fun hp => ⟨_, _, rfl, hp⟩⟩

theorem flatE_eq (X : Expr → List Sym) : ∀ es, flatE X es = es.flatMap X :=
  eq_flatMap rfl fun _ _ => rfl

theorem collectWritesL_eq (cfg : Cfg) (env : Env) : ∀ es, collectWritesL cfg env es = es.flatMap (collectWrites cfg env) :=
  eq_flatMap rfl fun _ _ => rfl

theorem collectReadsL_eq (cfg : Cfg) (env : Env) (rnd : Bool) :
    ∀ es, collectReadsL cfg env rnd es = es.flatMap (collectReads cfg env rnd) :=
  eq_flatMap rfl fun _ _ => rfl

theorem calleeSymsL_eq : ∀ es, calleeSymsL es = es.flatMap calleeSyms :=
  eq_flatMap rfl fun _ _ => rfl

theorem collectStmtL_eq (v : VisitFlags) (X : Expr → List Sym) : ∀ sts, collectStmtL v X sts = sts.flatMap (collectStmt v X) :=
  eq_flatMap rfl fun _ _ => rfl

theorem exprsOfL_eq : ∀ sts, exprsOfL sts = sts.flatMap exprsOf :=
  eq_flatMap rfl fun _ _ => rfl

theorem pureExprL_eq (env : Env) : ∀ es, pureExprL env es = es.all (pureExpr env) :=
  eq_all rfl fun _ _ => rfl

theorem containsRandomL_eq (cfg : Cfg) : ∀ es, containsRandomL cfg es = es.any (containsRandom cfg) :=
  eq_any rfl fun _ _ => rfl

theorem extFreeL_eq (cfg : Cfg) : ∀ es, extFreeL cfg es = es.all (extFree cfg) :=
  eq_all rfl fun _ _ => rfl

theorem mem_getSymbolsSel {cfg : Cfg} {idxs : List Nat} {s : Sym} {subs : List Expr} {i : Nat} :
    s ∈ getSymbolsSel cfg idxs i subs ↔
      ∃ j e, subs[j]? = some e ∧ idxs.contains (i + j) = true ∧ s ∈ getSymbols cfg e := by
  induction subs generalizing i with
  | nil => simp [getSymbolsSel]
  | cons a as ih =>
    simp only [getSymbolsSel, List.mem_append, List.mem_ite_nil_right, ih]
    constructor
    · rintro (⟨h1, h2⟩ | ⟨j, e, h1, h2, h3⟩)
      · exact ⟨0, a, rfl, h1, h2⟩
      · exact ⟨j + 1, e, h1, by rwa [Nat.add_assoc, Nat.add_comm 1] at h2, h3⟩
    · rintro ⟨j, e, h1, h2, h3⟩
      cases j with
      | zero => exact Or.inl ⟨h2, by cases h1; exact h3⟩
      | succ j => exact Or.inr ⟨j, e, h1, by rwa [Nat.add_assoc, Nat.add_comm 1], h3⟩

theorem mem_getSymbols {cfg : Cfg} {k : Kind} {x s : Sym} {subs : List Expr} (hk : k ≠ .kIDENTIFIER) :
    s ∈ getSymbols cfg (.node k x subs) ↔
      ∃ j e, subs[j]? = some e ∧ (cfg.getSymbolsIdx k).contains j = true ∧ s ∈ getSymbols cfg e := by
  simp only [getSymbols, if_neg hk, mem_getSymbolsSel, Nat.zero_add]

theorem assignKinds_ne_ident : ∀ k ∈ assignKinds, k ≠ Kind.kIDENTIFIER := by decide
theorem preIncDecKinds_ne_ident : ∀ k ∈ preIncDecKinds, k ≠ Kind.kIDENTIFIER := by decide

theorem rootOf_getSymbols {cfg : Cfg} (hc : cfg.WritesComplete) {e : Expr} {s : Sym} (h : RootOf e s) : s ∈ getSymbols cfg e := by
  obtain ⟨_, _, _, _, _, _, _, hdot, harr, hif1, hif2, hcomma, hass, hpre⟩ := hc
  induction h with
  | ident s subs => simp [getSymbols]
  | dot _ ih => exact (mem_getSymbols (by decide)).mpr ⟨0, _, rfl, hdot, ih⟩
  | array _ ih => exact (mem_getSymbols (by decide)).mpr ⟨0, _, rfl, harr, ih⟩
  | ifThen _ ih => exact (mem_getSymbols (by decide)).mpr ⟨1, _, rfl, hif1, ih⟩
  | ifElse _ ih => exact (mem_getSymbols (by decide)).mpr ⟨2, _, rfl, hif2, ih⟩
  | comma _ ih => exact (mem_getSymbols (by decide)).mpr ⟨1, _, rfl, hcomma, ih⟩
  | assign hk _ ih => exact (mem_getSymbols (assignKinds_ne_ident _ hk)).mpr ⟨0, _, rfl, hass _ hk, ih⟩
  | preIncDec hk _ ih => exact (mem_getSymbols (preIncDecKinds_ne_ident _ hk)).mpr ⟨0, _, rfl, hpre _ hk, ih⟩

theorem refArgSymbols_mem {cfg : Cfg} {s p : Sym} {a : Expr} {args : List Expr} {params : List Sym} {flags : List Bool}
    (h : (a, p, true) ∈ args.zip (params.zip flags)) (hs : s ∈ getSymbols cfg a) : s ∈ refArgSymbols cfg flags args := by
  induction args generalizing params flags with
  | nil => cases h
  | cons x xs ih =>
    match params, flags, h with
    | q :: qs, f :: fs, h =>
      rcases List.mem_cons.mp h with h | h
      · cases h
        exact List.mem_append_left _ hs
      · exact List.mem_append_right _ (ih h)

theorem refArgSymbols_sub {cfg : Cfg} {s : Sym} {flags : List Bool} {args : List Expr}
    (h : s ∈ refArgSymbols cfg flags args) : ∃ a ∈ args, s ∈ getSymbols cfg a := by
  fun_induction refArgSymbols cfg flags args with
  | case1 r rs a as ih =>
    rcases List.mem_append.mp h with h | h
    · exact ⟨a, List.mem_cons_self, (List.mem_ite_nil_right.mp h).2⟩
    · obtain ⟨b, hb, hs⟩ := ih h
      exact ⟨b, List.mem_cons_of_mem _ hb, hs⟩
  | case2 => cases h

theorem mem_collectWrites {cfg : Cfg} {env : Env} {k : Kind} {x s : Sym} {subs : List Expr} :
    s ∈ collectWrites cfg env (.node k x subs) ↔
      (cfg.writesRecurses = true ∧ ∃ e ∈ subs, s ∈ collectWrites cfg env e) ∨
      (cfg.writeLhsKinds.contains k = true ∧ ∃ a r, subs = a :: r ∧ s ∈ getSymbols cfg a) ∨
      (cfg.writeLhsKinds.contains k = false ∧ cfg.writeCallKinds.contains k = true ∧
        ∃ f args, subs = f :: args ∧ ∃ fi, env.find (calleeSym cfg.writeCallResolvesDot f) = some fi ∧
          (cfg.callAddsChanges = true ∧ s ∈ fi.changes ∨
           cfg.callAddsRefArgs = true ∧ s ∈ refArgSymbols cfg fi.refNonConst args)) := by
  simp only [collectWrites, collectWritesL_eq, List.mem_append, List.mem_ite_nil_right, List.mem_flatMap]
  refine or_congr Iff.rfl ?_
  cases subs with
  | nil => simp
  | cons f args =>
    simp only [exists_cons_eq]
    cases cfg.writeLhsKinds.contains k
    · cases cfg.writeCallKinds.contains k
      · simp
      · cases env.find (calleeSym cfg.writeCallResolvesDot f) <;> simp
    · simp

theorem mem_collectReads {cfg : Cfg} {env : Env} {rnd : Bool} {k : Kind} {x s : Sym} {subs : List Expr} :
    s ∈ collectReads cfg env rnd (.node k x subs) ↔
      (∃ e ∈ subs, s ∈ collectReads cfg env (cfg.readsPropagatesRandom && rnd) e) ∨
      (k = .kIDENTIFIER ∧ s = x) ∨
      (k ≠ .kIDENTIFIER ∧ cfg.readCallKinds.contains k = true ∧
        ∃ f args, subs = f :: args ∧ ∃ fi, env.find (calleeSym cfg.readCallResolvesDot f) = some fi ∧
          cfg.callAddsDepends = true ∧ s ∈ fi.depends) ∨
      (k ≠ .kIDENTIFIER ∧ cfg.readCallKinds.contains k = false ∧ rnd = true ∧ cfg.randomKinds.contains k = true ∧ s = 0) := by
  simp only [collectReads, collectReadsL_eq, List.mem_append, List.mem_flatMap]
  refine or_congr Iff.rfl ?_
  by_cases hk : k = .kIDENTIFIER
  · simp [hk]
  · cases subs with
    | nil => cases cfg.readCallKinds.contains k <;> simp [hk, and_assoc]
    | cons f args =>
      simp only [exists_cons_eq]
      cases cfg.readCallKinds.contains k
      · simp [hk, and_assoc]
      · cases env.find (calleeSym cfg.readCallResolvesDot f) <;> simp [hk]

/-! ### the statement visitor

    `collectStmt v X` puts together, with `++`, the lists `X e` of the expressions `e` it visits.  Hence whatever
    relation between lists holds of `[]`, `[]` and is kept by `++` carries over from the `X e` to the results
    (`collectStmt_rel`: equality gives congruence, `s ∈ · → s ∈ ·` monotonicity), and a visitor with every flag set
    computes the `flatMap` of `X` over all expressions of the statement (`collectStmt_flat`). -/

structure AppendRel (R : List Sym → List Sym → Prop) : Prop where
  nil : R [] []
  append : ∀ {a b c d}, R a b → R c d → R (a ++ c) (b ++ d)

theorem AppendRel.eq : AppendRel Eq := ⟨rfl, fun h1 h2 => h1 ▸ h2 ▸ rfl⟩

theorem AppendRel.mem (s : Sym) : AppendRel (fun a b => s ∈ a → s ∈ b) :=
  ⟨id, fun h1 h2 h => List.mem_append.mpr ((List.mem_append.mp h).imp h1 h2)⟩

section rel
variable {R : List Sym → List Sym → Prop} (hR : AppendRel R) {X1 X2 : Expr → List Sym}
include hR

theorem AppendRel.ite (c : Bool) {a b : List Sym} (h : R a b) : R (if c = true then a else []) (if c = true then b else []) := by
  cases c
  · exact hR.nil
  · exact h

theorem AppendRel.flatMap {α : Type} {f g : α → List Sym} (l : List α) (h : ∀ a ∈ l, R (f a) (g a)) :
    R (l.flatMap f) (l.flatMap g) := by
  induction l with
  | nil => exact hR.nil
  | cons a l ih =>
    rw [List.flatMap_cons, List.flatMap_cons]
    exact hR.append (h a List.mem_cons_self) (ih fun b hb => h b (List.mem_cons_of_mem _ hb))

theorem AppendRel.flatE (es : List Expr) (h : ∀ b ∈ es, R (X1 b) (X2 b)) : R (flatE X1 es) (flatE X2 es) :=
  flatE_eq X1 es ▸ flatE_eq X2 es ▸ hR.flatMap es h

theorem collectStmt_rel {v : VisitFlags} (st : Stmt) (h : ∀ b ∈ exprsOf st, R (X1 b) (X2 b)) :
    R (collectStmt v X1 st) (collectStmt v X2 st) := by
  induction st using Stmt.rec
    (motive_2 := fun sts => (∀ b ∈ exprsOfL sts, R (X1 b) (X2 b)) → R (collectStmtL v X1 sts) (collectStmtL v X2 sts)) with
  | empty | breakS | continueS => exact hR.nil
  | exprS e | assertS e | returnS e => exact hR.ite _ (h e List.mem_cons_self)
  | forS i c t body ih =>
    simp only [exprsOf, List.forall_mem_cons] at h
    exact hR.append (hR.append (hR.append (hR.ite _ h.1) (hR.ite _ h.2.1)) (hR.ite _ h.2.2.1)) (hR.ite _ (ih h.2.2.2))
  | iterS _ body ih => exact hR.ite _ (ih h)
  | whileS c body ih | doWhileS body c ih =>
    simp only [exprsOf, List.forall_mem_cons] at h
    exact hR.append (hR.ite _ h.1) (hR.ite _ (ih h.2))
  | block inits stats ih | defaultS inits stats ih =>
    simp only [exprsOf, List.forall_mem_append] at h
    exact hR.append (hR.ite _ (hR.flatE inits h.1)) (hR.ite _ (ih h.2))
  | switchS c inits stats ih | caseS c inits stats ih =>
    simp only [exprsOf, List.forall_mem_cons, List.forall_mem_append] at h
    exact hR.append (hR.append (hR.ite _ h.1) (hR.ite _ (hR.flatE inits h.2.1))) (hR.ite _ (ih h.2.2))
  | ifS c t e iht ihe =>
    simp only [exprsOf, List.forall_mem_cons, List.forall_mem_append] at h
    exact hR.append (hR.append (hR.ite _ h.1) (hR.ite _ (iht h.2.1))) (hR.ite _ (ihe h.2.2))
  | nil => exact hR.nil
  | cons st sts ih ihs =>
    rename_i h
    simp only [exprsOfL, List.forall_mem_append] at h
    exact hR.append (ih h.1) (ihs h.2)

theorem collectStmtL_rel {v : VisitFlags} (sts : List Stmt) (h : ∀ b ∈ exprsOfL sts, R (X1 b) (X2 b)) :
    R (collectStmtL v X1 sts) (collectStmtL v X2 sts) := by
  rw [collectStmtL_eq, collectStmtL_eq]
  exact hR.flatMap sts fun st hst => collectStmt_rel hR st fun b hb => h b (exprsOfL_eq sts ▸ List.mem_flatMap_of_mem hst hb)

end rel

theorem collectStmt_congr {v : VisitFlags} {X1 X2 : Expr → List Sym} (st : Stmt) :
    (∀ b ∈ exprsOf st, X1 b = X2 b) → collectStmt v X1 st = collectStmt v X2 st :=
  collectStmt_rel .eq st

theorem collectStmtL_congr {v : VisitFlags} {X1 X2 : Expr → List Sym} :
    ∀ (sts : List Stmt), (∀ b ∈ exprsOfL sts, X1 b = X2 b) → collectStmtL v X1 sts = collectStmtL v X2 sts :=
  collectStmtL_rel .eq

theorem collectStmt_mono {v : VisitFlags} {X1 X2 : Expr → List Sym} {s : Sym} (st : Stmt) :
    (∀ b ∈ exprsOf st, s ∈ X1 b → s ∈ X2 b) → s ∈ collectStmt v X1 st → s ∈ collectStmt v X2 st :=
  collectStmt_rel (.mem s) st

theorem collectStmtL_mono {v : VisitFlags} {X1 X2 : Expr → List Sym} {s : Sym} :
    ∀ (sts : List Stmt), (∀ b ∈ exprsOfL sts, s ∈ X1 b → s ∈ X2 b) → s ∈ collectStmtL v X1 sts → s ∈ collectStmtL v X2 sts :=
  collectStmtL_rel (.mem s)

theorem collectStmt_flat {v : VisitFlags} (hv : v.Complete) (X : Expr → List Sym) (st : Stmt) :
    collectStmt v X st = (exprsOf st).flatMap X := by
  unfold VisitFlags.Complete at hv
  induction st using Stmt.rec (motive_2 := fun sts => collectStmtL v X sts = (exprsOfL sts).flatMap X) <;>
    simp [collectStmt, collectStmtL, exprsOf, exprsOfL, flatE_eq, *]

theorem collectStmt_complete {v : VisitFlags} (hv : v.Complete) {X : Expr → List Sym} {s : Sym} {b : Expr} (hs : s ∈ X b)
    (st : Stmt) (hb : b ∈ exprsOf st) : s ∈ collectStmt v X st :=
  collectStmt_flat hv X st ▸ List.mem_flatMap_of_mem hb hs

theorem collectStmtL_complete {v : VisitFlags} (hv : v.Complete) {X : Expr → List Sym} {s : Sym} {b : Expr} (hs : s ∈ X b) :
    ∀ (sts : List Stmt), b ∈ exprsOfL sts → s ∈ collectStmtL v X sts := by
  intro sts hb
  obtain ⟨st, hst, hb⟩ := List.mem_flatMap.mp (exprsOfL_eq sts ▸ hb)
  exact collectStmtL_eq v X sts ▸ List.mem_flatMap_of_mem hst (collectStmt_complete hv hs st hb)

theorem mem_erase {xs drop : List Sym} {s : Sym} : s ∈ erase xs drop ↔ s ∈ xs ∧ s ∉ drop := by
  simp [erase]

theorem mem_eraseIf {b : Bool} {xs drop : List Sym} {s : Sym} :
    s ∈ (if b = true then erase xs drop else xs) ↔ s ∈ xs ∧ (b = true → s ∉ drop) := by
  cases b <;> simp [mem_erase]

theorem mem_changes {cfg : Cfg} {env : Env} {fd : FunDecl} {s : Sym} :
    s ∈ (funInfo cfg env fd).changes ↔
      (cfg.collectsChanges = true ∧ s ∈ collectStmt cfg.visit (collectWrites cfg env) fd.body) ∧
      (cfg.erasesLocalChanges = true → s ∉ fd.locals) ∧ (cfg.erasesParamChanges = true → s ∉ fd.params) := by
  simp only [funInfo, mem_eraseIf, List.mem_ite_nil_right, and_assoc]

theorem mem_depends {cfg : Cfg} {env : Env} {fd : FunDecl} {s : Sym} :
    s ∈ (funInfo cfg env fd).depends ↔
      (cfg.collectsDepends = true ∧ s ∈ collectStmt cfg.visit (collectReads cfg env cfg.dependsCollectsRandom) fd.body) ∧
      (cfg.erasesLocalDepends = true → s ∉ fd.locals) ∧ (cfg.erasesParamDepends = true → s ∉ fd.params) := by
  simp only [funInfo, mem_eraseIf, List.mem_ite_nil_right, and_assoc]

theorem mem_funInfo_changes {cfg : Cfg} (hc : cfg.WritesComplete) {env : Env} {fd : FunDecl} {b : Expr} {s : Sym}
    (hb : b ∈ exprsOf fd.body) (hs : s ∈ collectWrites cfg env b) (hnl : s ∉ fd.locals) (hnp : s ∉ fd.params) :
    s ∈ (funInfo cfg env fd).changes :=
  mem_changes.mpr ⟨⟨hc.2.2.2.1, collectStmt_complete hc.2.2.2.2.1 hs _ hb⟩, fun _ => hnl, fun _ => hnp⟩

theorem mem_funInfo_depends {cfg : Cfg} (hc : cfg.ReadsComplete) {env : Env} {fd : FunDecl} {b : Expr} {s : Sym}
    (hb : b ∈ exprsOf fd.body) (hs : s ∈ collectReads cfg env cfg.dependsCollectsRandom b) (hnl : s ∉ fd.locals) (hnp : s ∉ fd.params) :
    s ∈ (funInfo cfg env fd).depends :=
  mem_depends.mpr ⟨⟨hc.2.1, collectStmt_complete hc.2.2.1 hs _ hb⟩, fun _ => hnl, fun _ => hnp⟩

theorem funInfo_changes_nil {cfg : Cfg} (hl : cfg.erasesLocalChanges = true) (hp : cfg.erasesParamChanges = true) (env : Env)
    (fd : FunDecl) (h : ∀ s ∈ collectStmt cfg.visit (collectWrites cfg env) fd.body, s ∈ fd.locals ∨ s ∈ fd.params) :
    (funInfo cfg env fd).changes = [] := by
  refine List.eq_nil_iff_forall_not_mem.mpr fun s hs => ?_
  obtain ⟨⟨_, hm⟩, hnl, hnp⟩ := mem_changes.mp hs
  exact (h s hm).elim (hnl hl) (hnp hp)

theorem getSymbol_ident (f : Sym) (subs : List Expr) : getSymbol (.node .kIDENTIFIER f subs) = f := by
  unfold getSymbol
  simp

theorem dotSym_ident (f : Sym) (subs : List Expr) : dotSym (.node .kIDENTIFIER f subs) = 0 := by
  simp [dotSym]

theorem calleeSym_of_calleeIs {dot b : Bool} (hdot : dot = true → b = true) {c : Expr} {f : Sym} (h : CalleeIs dot c f) :
    calleeSym b c = f := by
  cases h with
  | ident f subs => simp [calleeSym, dotSym_ident, getSymbol_ident]
  | processDot f subs hd hne => simp [calleeSym, dotSym, hdot hd, hne]

theorem calleeSym_cases (b : Bool) (f : Expr) : calleeSym b f = getSymbol f ∨ calleeSym b f = dotSym f := by
  unfold calleeSym
  split
  · exact Or.inr rfl
  · exact Or.inl rfl

theorem Consistent.find_callee {cfg : Cfg} {env : Env} {P : List FunDecl} (hcons : Consistent cfg env P) {fd : FunDecl}
    (hfd : fd ∈ P) {dot b : Bool} (hdot : dot = true → b = true) {c : Expr} (hcal : CalleeIs dot c fd.name) :
    env.find (calleeSym b c) = some (funInfo cfg env fd) := by
  rw [calleeSym_of_calleeIs hdot hcal]
  exact hcons fd hfd

theorem writes_sound {cfg : Cfg} (hc : cfg.WritesComplete) {dot : Bool} (hdot : dot = true → cfg.writeCallResolvesDot = true)
    {P : List FunDecl} {env : Env} (hcons : Consistent cfg env P)
    {e : Expr} {s : Sym} (h : Writes dot P e s) : s ∈ collectWrites cfg env e := by
  obtain ⟨hrec, hch, href, _, _, hlhs, hcall, _⟩ := id hc
  induction h with
  | direct hk hroot => exact mem_collectWrites.mpr (.inr (.inl ⟨hlhs _ hk, _, _, rfl, rootOf_getSymbols hc hroot⟩))
  | sub he _ ih => exact mem_collectWrites.mpr (.inl ⟨hrec, _, he, ih⟩)
  | callBody hk hcal hfd hname hb _ hnl hnp ih =>
    subst hname
    exact mem_collectWrites.mpr (.inr (.inr ⟨(hcall _ hk).2, (hcall _ hk).1, _, _, rfl, _,
      hcons.find_callee hfd hdot hcal, .inl ⟨hch, mem_funInfo_changes hc hb ih hnl hnp⟩⟩))
  | callRef hk hcal hfd hname hzip _ _ hroot _ =>
    subst hname
    exact mem_collectWrites.mpr (.inr (.inr ⟨(hcall _ hk).2, (hcall _ hk).1, _, _, rfl, _,
      hcons.find_callee hfd hdot hcal, .inr ⟨href, refArgSymbols_mem hzip (rootOf_getSymbols hc hroot)⟩⟩))

theorem changesAny_of_mem {cfg : Cfg} {env : Env} {e : Expr} {s : Sym} (h : s ∈ collectWrites cfg env e) :
    changesAny cfg env e = true := by
  simp [changesAny, List.ne_nil_of_mem h]

/-- call kinds of the tables are call kinds of the language (so that `calleeSyms` sees every lookup the analysis does) -/
def Cfg.CallsExact (c : Cfg) : Prop :=
  (∀ k ∈ c.writeCallKinds, k ∈ callKinds) ∧ (∀ k ∈ c.readCallKinds, k ∈ callKinds)

instance (c : Cfg) : Decidable c.CallsExact := by unfold Cfg.CallsExact; infer_instance

theorem find_snoc (env : Env) (g : Sym) (i : FunInfo) (c : Sym) :
    Env.find (env ++ [(g, i)]) c = (Env.find env c).or (if g = c then some i else none) := by
  induction env with
  | nil => rfl
  | cons a as ih =>
    simp only [List.cons_append, Env.find]
    split
    · rfl
    · exact ih

theorem find_snoc_ne (env : Env) {g c : Sym} (i : FunInfo) (h : c ≠ g) : Env.find (env ++ [(g, i)]) c = Env.find env c := by
  rw [find_snoc, if_neg (Ne.symm h), Option.or_none]

theorem mem_calleeSymsL {c : Sym} {es : List Expr} {e : Expr} (he : e ∈ es) (hc : c ∈ calleeSyms e) : c ∈ calleeSymsL es :=
  calleeSymsL_eq es ▸ List.mem_flatMap_of_mem he hc

theorem calleeSyms_sub {c : Sym} {k : Kind} {x : Sym} {subs : List Expr} {e : Expr} (he : e ∈ subs) (hc : c ∈ calleeSyms e) :
    c ∈ calleeSyms (.node k x subs) := by
  simp only [calleeSyms]
  exact List.mem_append_right _ (mem_calleeSymsL he hc)

theorem calleeSym_mem_calleeSyms (b : Bool) {k : Kind} (hk : k ∈ callKinds) (x : Sym) (f : Expr) (args : List Expr) :
    calleeSym b f ∈ calleeSyms (.node k x (f :: args)) := by
  simp only [calleeSyms, List.contains_iff_mem.mpr hk, if_true]
  rcases calleeSym_cases b f with h | h <;> simp [h]

theorem collectWrites_congr {cfg : Cfg} (hx : cfg.CallsExact) {env1 env2 : Env} (e : Expr) :
    (∀ c ∈ calleeSyms e, env1.find c = env2.find c) → collectWrites cfg env1 e = collectWrites cfg env2 e := by
  induction e using Expr.ind with
  | node k x subs ih =>
    intro h
    have hsub : collectWritesL cfg env1 subs = collectWritesL cfg env2 subs := by
      rw [collectWritesL_eq, collectWritesL_eq]
      exact AppendRel.eq.flatMap subs fun e he => ih e he fun c hc => h c (calleeSyms_sub he hc)
    cases subs with
    | nil => rfl
    | cons f args =>
      simp only [collectWrites, hsub]
      by_cases hcall : k ∈ cfg.writeCallKinds
      · rw [h _ (calleeSym_mem_calleeSyms cfg.writeCallResolvesDot (hx.1 k hcall) x f args)]
      · simp only [List.contains_iff_mem, hcall, if_false]

theorem collectWritesL_congr {cfg : Cfg} (hx : cfg.CallsExact) {env1 env2 : Env} :
    ∀ (es : List Expr), (∀ c ∈ calleeSymsL es, env1.find c = env2.find c) → collectWritesL cfg env1 es = collectWritesL cfg env2 es := by
  intro es h
  rw [collectWritesL_eq, collectWritesL_eq]
  exact AppendRel.eq.flatMap es fun e he => collectWrites_congr hx e fun c hc =>
    h c (mem_calleeSymsL he hc)

theorem collectReads_congr {cfg : Cfg} (hx : cfg.CallsExact) {env1 env2 : Env} (e : Expr) :
    ∀ rnd, (∀ c ∈ calleeSyms e, env1.find c = env2.find c) → collectReads cfg env1 rnd e = collectReads cfg env2 rnd e := by
  induction e using Expr.ind with
  | node k x subs ih =>
    intro rnd h
    have hsub : ∀ r, collectReadsL cfg env1 r subs = collectReadsL cfg env2 r subs := by
      intro r
      rw [collectReadsL_eq, collectReadsL_eq]
      exact AppendRel.eq.flatMap subs fun e he => ih e he r fun c hc => h c (calleeSyms_sub he hc)
    cases subs with
    | nil => rfl
    | cons f args =>
      simp only [collectReads, hsub]
      by_cases hcall : k ∈ cfg.readCallKinds
      · rw [h _ (calleeSym_mem_calleeSyms cfg.readCallResolvesDot (hx.2 k hcall) x f args)]
      · simp only [List.contains_iff_mem, hcall, if_false]

theorem collectReadsL_congr {cfg : Cfg} (hx : cfg.CallsExact) {env1 env2 : Env} :
    ∀ (rnd : Bool) (es : List Expr), (∀ c ∈ calleeSymsL es, env1.find c = env2.find c) →
      collectReadsL cfg env1 rnd es = collectReadsL cfg env2 rnd es := by
  intro rnd es h
  rw [collectReadsL_eq, collectReadsL_eq]
  exact AppendRel.eq.flatMap es fun e he => collectReads_congr hx e rnd fun c hc =>
    h c (mem_calleeSymsL he hc)

theorem funInfo_congr {cfg : Cfg} (hx : cfg.CallsExact) {env1 env2 : Env} (fd : FunDecl)
    (h : ∀ c ∈ calleesOfFun fd, env1.find c = env2.find c) : funInfo cfg env1 fd = funInfo cfg env2 fd := by
  have hb : ∀ b ∈ exprsOf fd.body, ∀ c ∈ calleeSyms b, env1.find c = env2.find c := fun b hb c hc =>
    h c (mem_calleeSymsL hb hc)
  have hw := collectStmt_congr (v := cfg.visit) fd.body fun b hb' => collectWrites_congr hx b (hb b hb')
  have hr := fun r => collectStmt_congr (v := cfg.visit) fd.body fun b hb' => collectReads_congr hx b r (hb b hb')
  unfold funInfo
  rw [hw, hr]

theorem analyseFrom_stable (cfg : Cfg) (P : List FunDecl) (env : Env) {c : Sym} (h : c ∉ P.map (·.name)) :
    (analyseFrom cfg env P).find c = env.find c := by
  induction P generalizing env with
  | nil => rfl
  | cons fd rest ih =>
    rw [List.map_cons, List.mem_cons, not_or] at h
    rw [analyseFrom, ih _ h.2, find_snoc_ne env _ h.1]

theorem not_mem_of_contains {l : List Sym} {a : Sym} (h : l.contains a = false) : a ∉ l :=
  fun hm => Bool.false_ne_true (h ▸ List.contains_iff_mem.mpr hm)

theorem analyseFrom_consistent {cfg : Cfg} (hx : cfg.CallsExact) (P : List FunDecl) (env : Env)
    (hd : declaredBeforeUse P = true) (hn : ∀ fd ∈ P, env.find fd.name = none) : Consistent cfg (analyseFrom cfg env P) P := by
  induction P generalizing env with
  | nil => exact fun _ h => nomatch h
  | cons fd rest ih =>
    simp only [declaredBeforeUse, Bool.and_eq_true, Bool.not_eq_true', List.all_eq_true] at hd
    obtain ⟨⟨hnd, hcal⟩, hrest⟩ := hd
    have hnd' := not_mem_of_contains hnd
    let env' : Env := env ++ [(fd.name, funInfo cfg env fd)]
    intro g hg
    rw [analyseFrom]
    rcases List.mem_cons.mp hg with rfl | hg'
    · -- the function just analysed: its entry is stable, and so are the entries of all its callees
      rw [analyseFrom_stable cfg rest env' hnd', find_snoc, hn g List.mem_cons_self, if_pos rfl]
      refine congrArg some (funInfo_congr hx g fun c hc => ?_)
      have hc' := List.ne_and_not_mem_of_not_mem_cons (not_mem_of_contains (hcal c hc))
      rw [analyseFrom_stable cfg rest env' hc'.2, find_snoc_ne env _ hc'.1]
    · refine ih env' hrest (fun fd' hfd' => ?_) g hg'
      rw [find_snoc_ne env _ fun he : fd'.name = fd.name => hnd' (he ▸ List.mem_map_of_mem hfd')]
      exact hn fd' (List.mem_cons_of_mem _ hfd')

theorem analyse_consistent {cfg : Cfg} (hx : cfg.CallsExact) (P : List FunDecl) (hd : declaredBeforeUse P = true) :
    Consistent cfg (analyse cfg P) P :=
  analyseFrom_consistent hx P [] hd (fun _ _ => rfl)

theorem refArgSymbols_allFalse (cfg : Cfg) (flags : List Bool) (args : List Expr)
    (h : flags.all (fun r => !r) = true) : refArgSymbols cfg flags args = [] := by
  fun_induction refArgSymbols cfg flags args with
  | case1 r rs a as ih =>
    simp only [List.all_cons, Bool.and_eq_true, Bool.not_eq_true'] at h
    rw [h.1, ih h.2]
    rfl
  | case2 => rfl

theorem pure_collectWrites {cfg : Cfg} (hx : cfg.WritesExact) {env : Env} (e : Expr) :
    pureExpr env e = true → collectWrites cfg env e = [] := by
  induction e using Expr.ind with
  | node k x subs ih =>
    intro h
    simp only [pureExpr, Bool.and_eq_true, Bool.not_eq_true', pureExprL_eq, List.all_eq_true] at h
    obtain ⟨⟨hw, hcallee⟩, hsubs⟩ := h
    refine List.eq_nil_iff_forall_not_mem.mpr fun s hs => ?_
    rcases mem_collectWrites.mp hs with ⟨_, e, he, hse⟩ | ⟨hl, _⟩ | ⟨_, hc, f, args, rfl, fi, hfind, hmem⟩
    · rw [ih e he (hsubs e he)] at hse
      cases hse
    · rw [hx.1 k (List.contains_iff_mem.mp hl)] at hw
      cases hw
    · -- the callee's entry is one of the two that `pureExpr` tests
      rw [hx.2 k (List.contains_iff_mem.mp hc), if_pos rfl, Bool.and_eq_true] at hcallee
      have hp : entryPure (some fi) = true := by
        rcases calleeSym_cases cfg.writeCallResolvesDot f with h1 | h1
        · exact hfind ▸ h1 ▸ hcallee.1
        · exact hfind ▸ h1 ▸ hcallee.2
      simp only [entryPure, Bool.and_eq_true, List.isEmpty_iff] at hp
      rw [hp.1, refArgSymbols_allFalse cfg _ args hp.2] at hmem
      simp at hmem

theorem pure_collectWritesL {cfg : Cfg} (hx : cfg.WritesExact) {env : Env} :
    ∀ (es : List Expr), pureExprL env es = true → collectWritesL cfg env es = [] := by
  intro es h
  rw [pureExprL_eq, List.all_eq_true] at h
  rw [collectWritesL_eq]
  exact List.flatMap_eq_nil_iff.mpr fun e he => pure_collectWrites hx e (h e he)

theorem reads_sound {cfg : Cfg} (hc : cfg.ReadsComplete) {P : List FunDecl} {env : Env} (hcons : Consistent cfg env P)
    {e : Expr} {s : Sym} (h : Reads P e s) : ∀ rnd, s ∈ collectReads cfg env rnd e := by
  induction h with
  | ident s subs => exact fun _ => mem_collectReads.mpr (.inr (.inl ⟨rfl, rfl⟩))
  | sub he _ ih => exact fun _ => mem_collectReads.mpr (.inl ⟨_, he, ih _⟩)
  | callBody hfd hname hb _ hnl hnp ih =>
    subst hname
    exact fun _ => mem_collectReads.mpr (.inr (.inr (.inl ⟨by decide, hc.2.2.2, _, _, rfl, _,
      hcons.find_callee hfd (dot := false) (fun h => nomatch h) (.ident _ _), hc.1, mem_funInfo_depends hc hb (ih _) hnl hnp⟩)))

theorem symOk_of_isCTC {cfg : Cfg} {env : Env} {tab : SymTab} {e : Expr} (h : isCTC cfg env tab e = true) {s : Sym}
    (hs : s ∈ collectReads cfg env cfg.ctcCollectsRandom e) : symOk tab s = true :=
  List.all_eq_true.mp h s hs

/-- the null symbol stands for "reads a random number"; it is never compile-time computable -/
theorem isCTC_false_of_zero {cfg : Cfg} {env : Env} {e : Expr} (h : (0 : Sym) ∈ collectReads cfg env cfg.ctcCollectsRandom e)
    (tab : SymTab) : isCTC cfg env tab e = false :=
  Bool.eq_false_iff.mpr fun hc => by simpa [symOk] using symOk_of_isCTC hc h

theorem random_at_root {cfg : Cfg} (hi : cfg.randomKinds.contains .kIDENTIFIER = false)
    (hcall : ∀ k ∈ cfg.randomKinds, cfg.readCallKinds.contains k = false) {env : Env} {k : Kind} (hk : cfg.randomKinds.contains k = true)
    (x : Sym) (subs : List Expr) : (0 : Sym) ∈ collectReads cfg env true (.node k x subs) :=
  have hne : k ≠ .kIDENTIFIER := fun hid => Bool.false_ne_true (hi.symm.trans (hid ▸ hk))
  mem_collectReads.mpr (.inr (.inr (.inr ⟨hne, hcall k (List.contains_iff_mem.mp hk), rfl, hk, rfl⟩)))

theorem random_in_reads {cfg : Cfg} (hp : cfg.readsPropagatesRandom = true) (hi : cfg.randomKinds.contains .kIDENTIFIER = false)
    (hcall : ∀ k ∈ cfg.randomKinds, cfg.readCallKinds.contains k = false) {env : Env} (e : Expr) :
    containsRandom cfg e = true → (0 : Sym) ∈ collectReads cfg env true e := by
  induction e using Expr.ind with
  | node k x subs ih =>
    intro h
    simp only [containsRandom, Bool.or_eq_true, containsRandomL_eq, List.any_eq_true] at h
    rcases h with hk | ⟨e, he, hr⟩
    · exact random_at_root hi hcall hk x subs
    · exact mem_collectReads.mpr (.inl ⟨e, he, by rw [hp]; exact ih e he hr⟩)

theorem random_in_readsL {cfg : Cfg} (hp : cfg.readsPropagatesRandom = true) (hi : cfg.randomKinds.contains .kIDENTIFIER = false)
    (hcall : ∀ k ∈ cfg.randomKinds, cfg.readCallKinds.contains k = false) {env : Env} :
    ∀ (es : List Expr), containsRandomL cfg es = true → (0 : Sym) ∈ collectReadsL cfg env true es := by
  intro es h
  rw [containsRandomL_eq, List.any_eq_true] at h
  obtain ⟨e, he, hr⟩ := h
  exact collectReadsL_eq cfg env true es ▸ List.mem_flatMap_of_mem he (random_in_reads hp hi hcall e hr)

theorem mem_initReads {cfg : Cfg} {D : List VarDecl} {d : VarDecl} {s t : Sym} (hd : d ∈ D) (hs : d.sym = s)
    (ht : t ∈ collectReads cfg [] false d.init) : t ∈ initReads cfg D s := by
  induction D with
  | nil => cases hd
  | cons a as ih =>
    simp only [initReads, List.mem_append]
    rcases List.mem_cons.mp hd with rfl | h
    · exact .inl (by simp [hs, ht])
    · exact .inr (ih h)

/-- Invariant of the work-list loop: what the initialisers of the collected symbols read is collected or pending.
    When the loop ends, the result contains what was collected and what was pending, and is closed under
    "identifiers read by the initialiser". -/
theorem closeDeps_closed (cfg : Cfg) (D : List VarDecl) (fuel : Nat) (work deps : List Sym) {R : List Sym}
    (h : closeDeps cfg D fuel work deps = some R)
    (H : ∀ s ∈ deps, ∀ t ∈ initReads cfg D s, t ∈ deps ∨ t ∈ work) :
    (∀ s, s ∈ deps ∨ s ∈ work → s ∈ R) ∧ (∀ s ∈ R, ∀ t ∈ initReads cfg D s, t ∈ R) := by
  fun_induction closeDeps cfg D fuel work deps with
  | case1 deps | case3 _ deps =>
    cases h
    exact ⟨fun s hs => hs.resolve_right List.not_mem_nil, fun s hs t ht => (H s hs t ht).resolve_right List.not_mem_nil⟩
  | case2 => cases h
  | case4 fuel s work deps hc ih =>
    -- `s` is collected already: collected ∪ pending stays the same set
    have same : ∀ t, t ∈ deps ∨ t ∈ s :: work → t ∈ deps ∨ t ∈ work := by
      simp only [List.mem_cons]
      rintro t (h | rfl | h)
      · exact .inl h
      · exact .inl (List.contains_iff_mem.mp hc)
      · exact .inr h
    obtain ⟨h1, h2⟩ := ih h fun u hu t ht => same t (H u hu t ht)
    exact ⟨fun u hu => h1 u (same u hu), h2⟩
  | case5 fuel s work deps hc ih =>
    -- `s` moves from pending to collected, what its initialisers read becomes pending
    have grows : ∀ t, t ∈ deps ∨ t ∈ s :: work → t ∈ s :: deps ∨ t ∈ work ++ initReads cfg D s := by
      simp only [List.mem_cons, List.mem_append]
      rintro t (h | rfl | h)
      · exact .inl (.inr h)
      · exact .inl (.inl rfl)
      · exact .inr (.inl h)
    obtain ⟨h1, h2⟩ := ih h fun u hu t ht => by
      rcases List.mem_cons.mp hu with rfl | hu
      · exact .inr (List.mem_append_right _ ht)
      · exact grows t (H u hu t ht)
    exact ⟨fun u hu => h1 u (grows u hu), h2⟩

theorem consistent_nil (cfg : Cfg) : Consistent cfg [] [] := fun _ h => nomatch h

theorem builderDep_in_closure {cfg : Cfg} (hc : cfg.ReadsComplete) {D : List VarDecl} {fuel : Nat} {e : Expr} {R : List Sym}
    (h : collectDependencies cfg D fuel [] e = some R) {p : Sym} (hp : BuilderDep D e p) : p ∈ R := by
  obtain ⟨h1, h2⟩ := closeDeps_closed cfg D fuel _ [] h (fun _ hs => nomatch hs)
  induction hp with
  | direct hr => exact h1 _ (.inr (reads_sound hc (consistent_nil cfg) hr false))
  | viaInit _ hd hs hr ih => exact h2 _ ih _ (mem_initReads hd hs (reads_sound hc (consistent_nil cfg) hr false))

theorem getSymbols_sub_reads {cfg : Cfg} {env : Env} {s : Sym} (e : Expr) :
    ∀ rnd, s ∈ getSymbols cfg e → s ∈ collectReads cfg env rnd e := by
  induction e using Expr.ind with
  | node k x subs ih =>
    intro rnd h
    by_cases hk : k = Kind.kIDENTIFIER
    · exact mem_collectReads.mpr (.inr (.inl ⟨hk, by simpa [getSymbols, hk] using h⟩))
    · obtain ⟨j, e, he, _, hs⟩ := (mem_getSymbols hk).mp h
      exact mem_collectReads.mpr (.inl ⟨e, List.mem_of_getElem? he, ih e (List.mem_of_getElem? he) _ hs⟩)

theorem ident_not_writing : Kind.kIDENTIFIER ∉ writingKinds := by decide
theorem ident_not_call : Kind.kIDENTIFIER ∉ callKinds := by decide

/-- in every computed entry the write set is contained in the read set -/
def EnvSub (env : Env) : Prop := ∀ f fi, env.find f = some fi → ∀ s ∈ fi.changes, s ∈ fi.depends

theorem writes_sub_reads {cfg : Cfg} (hx : cfg.WritesExact) (hd : cfg.callAddsDepends = true ∧ cfg.writeCallResolvesDot = cfg.readCallResolvesDot)
    {env : Env} (hs : EnvSub env) {s : Sym} (e : Expr) :
    ∀ rnd, extFree cfg e = true → s ∈ collectWrites cfg env e → s ∈ collectReads cfg env rnd e := by
  induction e using Expr.ind with
  | node k x subs ih =>
    intro rnd hf h
    simp only [extFree, Bool.and_eq_true, Bool.or_eq_true, Bool.not_eq_true', extFreeL_eq, List.all_eq_true] at hf
    rcases mem_collectWrites.mp h with ⟨_, e, he, hse⟩ | ⟨_, a, r, rfl, ha⟩ | ⟨_, hc, f, args, rfl, fi, hfind, hmem⟩
    · exact mem_collectReads.mpr (.inl ⟨e, he, ih e he _ (hf.2 e he) hse⟩)
    · exact mem_collectReads.mpr (.inl ⟨a, List.mem_cons_self, getSymbols_sub_reads a _ ha⟩)
    · rcases hmem with ⟨_, hm⟩ | ⟨_, hm⟩
      · -- a callee's `changes`: the read analysis looks the same callee up and adds its `depends`
        have hne : k ≠ Kind.kIDENTIFIER := fun he =>
          ident_not_call (he ▸ List.contains_iff_mem.mp (hx.2 k (List.contains_iff_mem.mp hc)))
        exact mem_collectReads.mpr (.inr (.inr (.inl ⟨hne, hf.1.resolve_left (by rw [hc]; decide), f, args, rfl, fi,
          hd.2 ▸ hfind, hd.1, hs _ _ hfind s hm⟩)))
      · obtain ⟨a, ha, hsa⟩ := refArgSymbols_sub hm
        exact mem_collectReads.mpr (.inl ⟨a, List.mem_cons_of_mem _ ha, getSymbols_sub_reads a _ hsa⟩)

theorem writesL_sub_reads {cfg : Cfg} (hx : cfg.WritesExact) (hd : cfg.callAddsDepends = true ∧ cfg.writeCallResolvesDot = cfg.readCallResolvesDot)
    {env : Env} (hs : EnvSub env) {s : Sym} :
    ∀ (es : List Expr) (rnd : Bool), extFreeL cfg es = true → s ∈ collectWritesL cfg env es → s ∈ collectReadsL cfg env rnd es := by
  intro es rnd hf h
  rw [extFreeL_eq, List.all_eq_true] at hf
  rw [collectWritesL_eq] at h
  rw [collectReadsL_eq]
  exact (AppendRel.mem s).flatMap es (fun e he => writes_sub_reads hx hd hs e rnd (hf e he)) h

/-- the erase loops of visitFunction treat `changes` and `depends` alike -/
def Cfg.EraseAlike (c : Cfg) : Prop :=
  c.collectsDepends = true ∧ (c.callAddsDepends = true ∧ c.writeCallResolvesDot = c.readCallResolvesDot) ∧
  (c.erasesLocalDepends = true → c.erasesLocalChanges = true) ∧ (c.erasesParamDepends = true → c.erasesParamChanges = true)

instance (c : Cfg) : Decidable c.EraseAlike := by unfold Cfg.EraseAlike; infer_instance

theorem funInfo_sub {cfg : Cfg} (hx : cfg.WritesExact) (he : cfg.EraseAlike) {env : Env} (hs : EnvSub env) (fd : FunDecl)
    (hf : extFreeL cfg (exprsOf fd.body) = true) : ∀ s ∈ (funInfo cfg env fd).changes, s ∈ (funInfo cfg env fd).depends := by
  obtain ⟨hcd, had, hl, hp⟩ := he
  rw [extFreeL_eq, List.all_eq_true] at hf
  intro s h
  obtain ⟨⟨_, hm⟩, hnl, hnp⟩ := mem_changes.mp h
  exact mem_depends.mpr ⟨⟨hcd, collectStmt_mono fd.body (fun b hb => writes_sub_reads hx had hs b _ (hf b hb)) hm⟩,
    fun h => hnl (hl h), fun h => hnp (hp h)⟩

theorem analyseFrom_envSub {cfg : Cfg} (hx : cfg.WritesExact) (he : cfg.EraseAlike) (P : List FunDecl) (env : Env)
    (hs : EnvSub env) (hb : bodiesExtFree cfg P = true) : EnvSub (analyseFrom cfg env P) := by
  induction P generalizing env with
  | nil => exact hs
  | cons fd rest ih =>
    simp only [bodiesExtFree, List.all_cons, Bool.and_eq_true] at hb
    refine ih _ (fun f fi hfind => ?_) hb.2
    rw [find_snoc, Option.or_eq_some_iff] at hfind
    rcases hfind with h | ⟨_, h⟩
    · exact hs f fi h
    · split at h
      · cases h
        exact funInfo_sub hx he hs fd hb.1
      · cases h

theorem analyse_envSub {cfg : Cfg} (hx : cfg.WritesExact) (he : cfg.EraseAlike) (P : List FunDecl)
    (hb : bodiesExtFree cfg P = true) : EnvSub (analyse cfg P) :=
  analyseFrom_envSub hx he P [] (fun _ _ h => nomatch h) hb

end UtapModel.Effect
