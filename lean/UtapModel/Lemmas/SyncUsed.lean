/- The synchronisation-style state machine (Model/SyncUsed.lean) over a run of labels that all lead to one state and
   keep it: such a run is reported on every label or on none.  The entries of `pinned` that the runs of C16 use. -/
import UtapModel.Model.SyncUsed

namespace UtapModel.SyncUsed

theorem diags_fixed (tbl : List (Int × String × Int)) (s : Int) (l r : List SK) (h : ∀ k ∈ l, step tbl s k = s) :
    diags tbl s (l ++ r) = List.replicate l.length (s == -1) ++ diags tbl s r := by
  induction l with
  | nil => rfl
  | cons k l ih =>
    simp only [List.cons_append, diags, h k (List.mem_cons_self ..), List.length_cons, List.replicate_succ]
    rw [ih fun x hx => h x (List.mem_cons_of_mem _ hx)]

/-- with `s = s'`: a state that nothing in `l` leaves -/
theorem diags_enter (tbl : List (Int × String × Int)) (s s' : Int) (l : List SK)
    (h0 : ∀ k ∈ l, step tbl s k = s') (h : ∀ k ∈ l, step tbl s' k = s') :
    diags tbl s l = List.replicate l.length (s' == -1) := by
  cases l with
  | nil => rfl
  | cons k r =>
    have hr := diags_fixed tbl s' r [] fun x hx => h x (List.mem_cons_of_mem _ hx)
    rw [List.append_nil] at hr
    rw [diags, h0 k (List.mem_cons_self ..), hr, diags, List.append_nil]
    rfl

theorem step_io : ∀ k : SK, k.isIO = true → step pinned 0 k = 1 ∧ step pinned 1 k = 1
  | .bang, _ => by decide
  | .que, _ => by decide

theorem step_mixed (k : SK) : step pinned (-1) k = -1 := by cases k <;> decide

end UtapModel.SyncUsed
