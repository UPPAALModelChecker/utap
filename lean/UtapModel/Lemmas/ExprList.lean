/- Comma lists (Model/ExprList.lean): the elements of a rendered list are read back one by one, whatever their number. -/
import UtapModel.Lemmas.PrattRender
import UtapModel.Model.ExprList

namespace UtapModel.Pratt

variable (T : Tbl) (mt : Nat)

theorem parseItems_render (hT : T.ternL ≤ T.questL) (full : Bool) (es : List Expr) (e : Expr) (he : wf T mt false e = true)
    (hes : ∀ x ∈ es, wf T mt false x = true) (f : Nat) (hf : es.length + 1 ≤ f) :
    parseItems T f (renderList T mt full e es) = some (e :: es) := by
  induction es generalizing e f with
  | nil =>
    obtain ⟨f, rfl⟩ := succ_of_le hf
    simp only [renderList, parseItems, parse_R_end T mt hT (c := 0) (render_R T mt full false e he 0) _ (Nat.le_refl _)]
  | cons x es ih =>
    obtain ⟨f, rfl⟩ := succ_of_le hf
    -- the element stops in front of its comma
    have := parse_R T mt hT (c := 0) (render_R T mt full false e he 0) (rest := .comma :: renderList T mt full x es) rfl _ (Nat.le_refl _)
    have hx := List.forall_mem_cons.mp hes
    simp only [renderList, List.append_assoc, List.cons_append, List.nil_append, parseItems, this,
      ih x hx.1 hx.2 f (Nat.le_of_succ_le_succ hf)]

theorem length_le_renderList (full : Bool) (e : Expr) (es : List Expr) : es.length ≤ (renderList T mt full e es).length := by
  induction es generalizing e with
  | nil => exact Nat.zero_le _
  | cons x es ih =>
    have := ih x
    simp only [renderList, List.length_append, List.length_cons, List.length_nil]
    omega

theorem parseList_render (hT : T.ternL ≤ T.questL) (full leftRec : Bool) (e : Expr) (es : List Expr)
    (he : wf T mt false e = true) (hes : ∀ x ∈ es, wf T mt false x = true) :
    parseList T leftRec (renderList T mt full e es) = some (nest leftRec e es) := by
  simp only [parseList, parseItems_render T mt hT full es e he hes _ (Nat.succ_le_succ (length_le_renderList T mt full e es))]

/-- one and two elements: the side of the recursion cannot be seen -/
theorem nest_le_two (e : Expr) (es : List Expr) (h : es.length ≤ 1) : nest true e es = nest false e es := by
  match es, h with
  | [], _ => rfl
  | [_], _ => rfl

end UtapModel.Pratt
