/- From expressions (Lemmas/Feature.lean) to symbols, edges and documents.  Where the checker inspects every placement an
   entry shows (`detects`), it does not throw (`not_throws`), and an entry it lets pass meets the declarative condition
   (`sym_ok`, `edge_ok`, `chan_ok`); the verdict is a disjunction over the entries and so does not depend on their order
   (`reported_congr`).  Core Lean only. -/
import UtapModel.Lemmas.Feature

namespace UtapModel.Feature

theorem mem_cmpShapes {ctx : Ctx} {e : FExpr} {s : Shape} :
    s ∈ cmpShapes ctx e ↔ ∃ pe ∈ occs e, isCmpClockFp pe.2 = true ∧ .cmp ctx pe.1.root (opOf pe.2) = s := by
  simp only [cmpShapes, List.mem_filterMap, Option.ite_none_right_eq_some, Option.some.injEq]

theorem mem_rateShapes {e : FExpr} {s : Shape} :
    s ∈ rateShapes e ↔ ∃ pe ∈ occs e,
      (isBadRate pe.2 && !isDblRate pe.2) = true ∧ .rateInt pe.1.conj = s ∨ isDblRate pe.2 = true ∧ .rateDbl pe.1.conj = s := by
  simp only [rateShapes, List.mem_append, List.mem_filterMap, Option.ite_none_right_eq_some, Option.some.injEq,
    and_or_left, exists_or]

theorem mem_assignShapes {e : FExpr} {s : Shape} :
    s ∈ assignShapes e ↔ ∃ a ∈ updateElems e, isAssignFp a = true ∧ .assign (usesHybrid a) = s := by
  simp only [assignShapes, List.mem_filterMap, Option.ite_none_right_eq_some, Option.some.injEq]

theorem mem_symShapes_var {loc : Bool} {f : SymFlags} {init : FExpr} {s : Shape} :
    s ∈ symShapes loc (.var f init) ↔
      isInitFp f init = true ∧ s = .init (!f.clkD) ∨ badChan (.var f init) = true ∧ s = .chan loc (!(f.chD && !f.bcD)) := by
  simp only [symShapes, List.mem_append, List.mem_ite_nil_right, List.mem_singleton]

theorem forall_mem_shapesOf {P : Shape → Prop} {m : Doc} :
    (∀ s ∈ shapesOf m, P s) ↔
      (∀ sym ∈ m.gframe, ∀ s ∈ symShapes false sym, P s) ∧
      ∀ t ∈ m.templs, t.inst = true →
        (∀ sym ∈ t.frame, ∀ s ∈ symShapes true sym, P s) ∧ ∀ e ∈ t.edges, ∀ s ∈ edgeShapes e, P s := by
  simp only [shapesOf, templShapes, List.mem_append, List.mem_flatMap, List.mem_ite_nil_right]
  constructor
  · exact fun h => ⟨fun sym hm s hs => h s (Or.inl ⟨sym, hm, hs⟩), fun t ht hi =>
      ⟨fun sym hm s hs => h s (Or.inr ⟨t, ht, hi, Or.inl ⟨sym, hm, hs⟩⟩),
       fun e hm s hs => h s (Or.inr ⟨t, ht, hi, Or.inr ⟨e, hm, hs⟩⟩)⟩⟩
  · rintro ⟨hg, ht⟩ s (⟨sym, hm, hs⟩ | ⟨t, htm, hi, ⟨sym, hm, hs⟩ | ⟨e, hm, hs⟩⟩)
    · exact hg sym hm s hs
    · exact (ht t htm hi).1 sym hm s hs
    · exact (ht t htm hi).2 e hm s hs

/-- the declarative conditions are negated tests: each is proved by refuting the test -/
theorem not_eq_true_of {b : Bool} (h : b = true → False) : (!b) = true := by
  cases b
  · rfl
  · exact (h rfl).elim

theorem visitLocation_none {cfg : Cfg} {inv : FExpr} (h : visitLocation cfg inv = none) : rateScan cfg inv = none := by
  unfold visitLocation at h
  split at h
  · cases h
  · split at h
    next hx => exact hx
    · cases h

theorem visitLocation_false {cfg : Cfg} {inv : FExpr} (h : visitLocation cfg inv = some false) (hne : inv.isEmpty = false) :
    rateScan cfg inv = some false ∧ (cfg.invariantCompared && visitGuard cfg inv) = false := by
  unfold visitLocation at h
  rw [if_neg (by simp [hne])] at h
  split at h
  · cases h
  next r hx => simpa [hx, and_comm] using h

/-- where the checker throws there is a floating-point literal rate, a placement an unrepaired checker does not inspect -/
theorem symLost_ne_none (cfg : Cfg) (loc : Bool) (sym : FSym) (hs : ∀ s ∈ symShapes loc sym, detects cfg s = true) :
    symLost cfg sym ≠ none := by
  cases sym with
  | var | tdef | other => exact nofun
  | loc f inv =>
    intro hn
    obtain ⟨pe, hpe, hat⟩ := rateScan_throws true true (visitLocation_none hn)
    obtain ⟨hd, hh⟩ := rateAt_eq_none hat
    have := hs (.rateDbl pe.1.conj) (List.mem_append_right _ (mem_rateShapes.mpr ⟨pe, hpe, Or.inr ⟨hd, rfl⟩⟩))
    simp [detects, hh] at this

theorem sym_ok (cfg : Cfg) (loc : Bool) (sym : FSym) (hs : ∀ s ∈ symShapes loc sym, detects cfg s = true)
    (hl : symLost cfg sym ≠ some true) : initOk sym = true ∧ invOk sym = true := by
  have hl : symLost cfg sym = some false :=
    match h : symLost cfg sym with
    | none => absurd h (symLost_ne_none cfg loc sym hs)
    | some true => absurd h hl
    | some false => rfl
  cases sym with
  | tdef | other => exact ⟨rfl, rfl⟩
  | var f init =>
    refine ⟨not_eq_true_of fun hi => ?_, rfl⟩
    have := visitVariable_of_initFp cfg f init hi (hs _ (mem_symShapes_var.mpr (Or.inl ⟨hi, rfl⟩)))
    simp [symLost, this] at hl
  | loc f inv =>
    refine ⟨rfl, List.all_eq_true.mpr fun pe hpe => ?_⟩
    obtain ⟨hrate, hguard⟩ := visitLocation_false hl (walk_nonempty hpe)
    refine Bool.and_eq_true_iff.mpr ⟨not_eq_true_of fun hc => ?_, not_eq_true_of fun hb => ?_⟩
    · have hd := hs _ (List.mem_append_left _ (mem_cmpShapes.mpr ⟨pe, hpe, hc, rfl⟩))
      obtain ⟨hg, hi⟩ := visitGuard_of_cmp cfg .inv hpe hc hd
      simp [hg, hi rfl] at hguard
    · have hat := rateAt_eq cfg pe.2
      cases hdr : isDblRate pe.2
      · have hd := hs _ (List.mem_append_right _ (mem_rateShapes.mpr ⟨pe, hpe, Or.inl ⟨by simp [hb, hdr], rfl⟩⟩))
        rw [rateScan_false hrate hpe hd, hdr, hb] at hat
        cases hat
      · have hd := hs _ (List.mem_append_right _ (mem_rateShapes.mpr ⟨pe, hpe, Or.inr ⟨hdr, rfl⟩⟩))
        simp only [detects, Bool.and_eq_true] at hd
        rw [rateScan_false hrate hpe hd.2, hdr, hb, hd.1] at hat
        cases hat

theorem edge_ok (cfg : Cfg) (e : Edge) (hs : ∀ s ∈ edgeShapes e, detects cfg s = true) (hl : edgeLost cfg e = false) :
    guardOk e = true ∧ updateOk e = true := by
  simp only [edgeLost, Bool.or_eq_false_iff] at hl
  refine ⟨List.all_eq_true.mpr fun pe hpe => ?_, List.all_eq_true.mpr fun a ha => ?_⟩
  · refine not_eq_true_of fun hc => ?_
    have hd := hs _ (List.mem_append_left _ (mem_cmpShapes.mpr ⟨pe, hpe, hc, rfl⟩))
    exact Bool.false_ne_true (hl.2.symm.trans (visitGuard_of_cmp cfg .guard hpe hc hd).1)
  · refine not_eq_true_of fun hc => ?_
    have hd := hs _ (List.mem_append_right _ (mem_assignShapes.mpr ⟨a, ha, hc, rfl⟩))
    exact Bool.false_ne_true (hl.1.symm.trans (visitAssignment_of_elem cfg ha (visitAssignment_of_assignFp cfg a hc hd)))

/-- `hv`: the frame is scanned at all (template frames only if `chanLocalFrames`) and nothing was found -/
theorem chan_ok (cfg : Cfg) (loc : Bool) (sym : FSym) (hs : ∀ s ∈ symShapes loc sym, detects cfg s = true)
    (hv : (loc = true → cfg.chanLocalFrames = true) → chanHit cfg sym = false) : badChan sym = false := by
  refine Bool.eq_false_iff.mpr fun hb => ?_
  cases sym with
  | tdef | other | loc => cases hb
  | var f init =>
    have hd := hs _ (mem_symShapes_var.mpr (Or.inr ⟨hb, rfl⟩))
    simp only [detects, Bool.and_eq_true, Bool.or_eq_true, Bool.not_eq_true', Bool.not_not] at hd
    have hnh := hv fun hl => hd.1.resolve_left (by simp [hl])
    simp only [badChan, Bool.and_eq_true, Bool.not_eq_true'] at hb
    by_cases ht : cfg.chanThroughArrays = true
    · simp [chanHit, ht, FSym.flags, hb.1.1, hb.1.2, hb.2] at hnh
    · rcases hd.2 with h2 | h2
      · simp [chanHit, ht, FSym.flags, h2.1, h2.2] at hnh
      · exact absurd h2 ht

theorem anyVisited_eq_false {m : Doc} {f : Templ → Bool} :
    anyVisited m f = false ↔ ∀ t ∈ m.templs, t.inst = true → f t = false := by
  simp only [anyVisited, List.any_eq_false, Bool.and_eq_true, not_and, Bool.not_eq_true]

theorem frameThrows_eq_false {cfg : Cfg} {fr : List FSym} : frameThrows cfg fr = false ↔ ∀ s ∈ fr, symLost cfg s ≠ none := by
  simp only [frameThrows, List.any_eq_false, Option.isNone_iff_eq_none, ne_eq]

theorem frameLost_eq_false {cfg : Cfg} {fr : List FSym} : frameLost cfg fr = false ↔ ∀ s ∈ fr, symLost cfg s ≠ some true := by
  simp only [frameLost, List.any_eq_false, beq_iff_eq, ne_eq]

theorem templLost_eq_false {cfg : Cfg} {t : Templ} :
    templLost cfg t = false ↔ (∀ s ∈ t.frame, symLost cfg s ≠ some true) ∧ ∀ e ∈ t.edges, edgeLost cfg e = false := by
  simp only [templLost, Bool.or_eq_false_iff, frameLost_eq_false, List.any_eq_false, Bool.not_eq_true]

theorem visitFrame_eq_false {cfg : Cfg} {fr : List FSym} : visitFrame cfg fr = false ↔ ∀ s ∈ fr, chanHit cfg s = false := by
  simp only [visitFrame, List.any_eq_false, Bool.not_eq_true]

theorem not_throws (cfg : Cfg) (m : Doc) (hs : ∀ s ∈ shapesOf m, detects cfg s = true) : throws cfg m = false := by
  obtain ⟨sg, st⟩ := forall_mem_shapesOf.mp hs
  simp only [throws, Bool.or_eq_false_iff, anyVisited_eq_false, frameThrows_eq_false]
  exact ⟨fun s hm => symLost_ne_none cfg false s (sg s hm),
    fun t htm hti s hm => symLost_ne_none cfg true s ((st t htm hti).1 s hm)⟩

theorem reported_eq (cfg : Cfg) (m : Doc) (h : throws cfg m = false) :
    reported cfg m =
      { symbolic := !(m.dyn || frameLost cfg m.gframe || anyVisited m (templLost cfg))
        stochastic := !(m.prio || visitFrame cfg m.gframe
                          || (cfg.chanLocalFrames && anyVisited m (fun t => visitFrame cfg t.frame)))
        concrete := !m.prio } := by
  simp [reported, check, h]

theorem opOf_rel (e : FExpr) (h : isCmpClockFp e = true) : relKinds.contains (opOf e) = true := by
  match e, h with
  | .node k f v [a, b], h =>
    simp only [isCmpClockFp, Bool.and_eq_true] at h
    exact h.1.1.1

/-- `allShapes` leaves out only comparisons whose operator is not relational -/
theorem mem_allShapes (s : Shape) (h : match s with | .cmp _ _ k => relKinds.contains k = true | _ => True) : s ∈ allShapes := by
  cases s with
  | cmp c r k =>
    exact List.mem_append_left _ <| List.mem_flatMap.mpr ⟨c, by cases c <;> decide,
      List.mem_flatMap.mpr ⟨r, by cases r <;> decide, List.mem_map.mpr ⟨k, List.contains_iff_mem.mp h, rfl⟩⟩⟩
  | assign b | init b | rateInt b | rateDbl b => exact List.mem_append_right _ (by cases b <;> decide)
  | chan l a => exact List.mem_append_right _ (by cases l <;> cases a <;> decide)

theorem symShapes_in_all (loc : Bool) (sym : FSym) (s : Shape) (h : s ∈ symShapes loc sym) : s ∈ allShapes := by
  cases sym with
  | tdef | other => cases h
  | var f init =>
    rcases mem_symShapes_var.mp h with ⟨_, rfl⟩ | ⟨_, rfl⟩
    · exact mem_allShapes (.init _) trivial
    · exact mem_allShapes (.chan _ _) trivial
  | loc f inv =>
    rcases List.mem_append.mp h with h | h
    · obtain ⟨pe, _, hc, rfl⟩ := mem_cmpShapes.mp h
      exact mem_allShapes (.cmp _ _ _) (opOf_rel pe.2 hc)
    · obtain ⟨pe, _, ⟨_, rfl⟩ | ⟨_, rfl⟩⟩ := mem_rateShapes.mp h
      · exact mem_allShapes (.rateInt _) trivial
      · exact mem_allShapes (.rateDbl _) trivial

theorem edgeShapes_in_all (e : Edge) (s : Shape) (h : s ∈ edgeShapes e) : s ∈ allShapes := by
  rcases List.mem_append.mp h with h | h
  · obtain ⟨pe, _, hc, rfl⟩ := mem_cmpShapes.mp h
    exact mem_allShapes (.cmp _ _ _) (opOf_rel pe.2 hc)
  · obtain ⟨a, _, _, rfl⟩ := mem_assignShapes.mp h
    exact mem_allShapes (.assign _) trivial

theorem shapesOf_in_all (m : Doc) : ∀ s ∈ shapesOf m, s ∈ allShapes :=
  forall_mem_shapesOf.mpr ⟨fun sym _ => symShapes_in_all false sym, fun _ _ _ =>
    ⟨fun sym _ => symShapes_in_all true sym, fun e _ => edgeShapes_in_all e⟩⟩

/-- element-wise relation between two lists of the same length -/
inductive Pointwise {α : Type} (R : α → α → Prop) : List α → List α → Prop where
  | nil : Pointwise R [] []
  | cons {a b : α} {l l' : List α} : R a b → Pointwise R l l' → Pointwise R (a :: l) (b :: l')

theorem any_pointwise {α : Type} {R : α → α → Prop} (f : α → Bool) (hf : ∀ a b, R a b → f a = f b)
    {l l' : List α} (h : Pointwise R l l') : l.any f = l'.any f := by
  induction h with
  | nil => rfl
  | cons hab _ ih => rw [List.any_cons, List.any_cons, hf _ _ hab, ih]

/-- the same template up to the order of its declarations (frame entries, edges) -/
def Templ.Equiv (t t' : Templ) : Prop := t.inst = t'.inst ∧ t.frame.Perm t'.frame ∧ t.edges.Perm t'.edges

theorem anyVisited_congr (m m' : Doc) (f : Templ → Bool) (hf : ∀ a b, Templ.Equiv a b → f a = f b)
    (ht : ∃ l, m.templs.Perm l ∧ Pointwise Templ.Equiv l m'.templs) : anyVisited m f = anyVisited m' f := by
  obtain ⟨l, hp, hw⟩ := ht
  unfold anyVisited
  rw [hp.any_eq]
  exact any_pointwise _ (fun a b hab => by rw [hab.1, hf a b hab]) hw

/-- the verdict is a disjunction over the entries of the global frame and over the instantiated templates, and in a
    template over the entries of its frame and its edges: it depends on which entries there are and on nothing else -/
theorem reported_congr (cfg : Cfg) {m m' : Doc} (hd : m.dyn = m'.dyn) (hp : m.prio = m'.prio)
    (hg : ∀ f : FSym → Bool, m.gframe.any f = m'.gframe.any f)
    (ht : ∀ f : Templ → Bool, (∀ a b, Templ.Equiv a b → f a = f b) → anyVisited m f = anyVisited m' f) :
    reported cfg m = reported cfg m' := by
  have e1 := ht (fun t => frameThrows cfg t.frame) fun a b hab => hab.2.1.any_eq
  have e2 := ht (fun t => visitFrame cfg t.frame) fun a b hab => hab.2.1.any_eq
  have e3 := ht (templLost cfg) fun a b hab => by
    simp only [templLost, frameLost]
    rw [hab.2.1.any_eq, hab.2.2.any_eq]
  have g1 : frameThrows cfg m.gframe = frameThrows cfg m'.gframe := hg _
  have g2 : frameLost cfg m.gframe = frameLost cfg m'.gframe := hg _
  have g3 : visitFrame cfg m.gframe = visitFrame cfg m'.gframe := hg _
  rw [reported, reported, check, check, throws, throws, g1, g2, g3, e1, e2, e3, hd, hp]

end UtapModel.Feature
