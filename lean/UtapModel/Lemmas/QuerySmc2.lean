/- The remaining statistical query forms (Model/QuerySmc2.lean; theorems in Props/C03Query.lean): the head `B ]( <> e )` they share and
   the round trip. -/
import UtapModel.Model.QuerySmc2
import UtapModel.Lemmas.QuerySmc

namespace UtapModel.QuerySmc
open UtapModel.Pratt UtapModel.Query

def pathName (box : Bool) : String := if box then "T_BOX" else "T_DIAMOND"

theorem pathTok_name (box : Bool) : pathTok? (qid (pathName box)) = some box := by
  cases box <;> simp only [pathTok?, pathName, isTok_kw, kw_mem, String.reduceBEq, Bool.false_eq_true, ↓reduceIte]

theorem path_lits (box : Bool) :
    (if box then lit "box" else lit "diamond") = [.rb, .lp, .sym (qid (pathName box))] ∧ pathToks box = [.sym (qid (pathName box))] := by
  cases box <;> simp [pathToks, pathName, lits]

theorem prHead_print (b : Bnd) (hb : b.wf = true) (box : Bool) (e : Expr) (he : goodE e = true) (rest : List Tok) :
    prHead (bndToks P b ++ .rb :: .lp :: .sym (qid (pathName box)) :: (P e ++ .rp :: rest)) = some (b, box, e, rest) := by
  simp only [prHead, parseBnd_print b hb, pathTok_name, pE_print e he (rest := .rp :: rest) rfl]

theorem bndToks_noruns (b : Bnd) (h : b.runs.isNone = true) : boundToks P b = bndToks P b := by
  obtain ⟨k, bound, runs⟩ := b
  cases runs with
  | none => simp [bndToks, runsToks]
  | some n => simp at h

theorem smc2_roundtrip (q : XQuery) (h : q.wf = true) : parseX (xprint q) = some q := by
  unfold xprint
  cases q with
  | qual box b pred p =>
    simp only [XQuery.wf, Bool.and_eq_true] at h
    have hh := prHead_print b h.1 box pred h.2 [.sym (qid "T_GEQ"), .atom (.dbl p)]
    simp only [printX, path_lits]
    simp only [lits, List.append_assoc, List.cons_append, List.nil_append]
    simp only [parseX, isTok_kw, kw_mem, String.reduceBEq, ↓reduceIte, hh]
  | cmp b1 box1 p1 b2 box2 p2 =>
    simp only [XQuery.wf, Bool.and_eq_true] at h
    obtain ⟨⟨⟨⟨⟨hb1, hr1⟩, hp1⟩, hb2⟩, hr2⟩, hp2⟩ := h
    have hh2 := prHead_print b2 hb2 box2 p2 hp2 []
    have hh1 := prHead_print b1 hb1 box1 p1 hp1
      (.sym (qid "T_GEQ") :: .sym (qid "T_PROBA") :: .lb :: (bndToks P b2 ++ .rb :: .lp :: .sym (qid (pathName box2)) :: (P p2 ++ [.rp])))
    simp only [printX, bndToks_noruns b1 hr1, bndToks_noruns b2 hr2, path_lits, lits, List.append_assoc, List.cons_append, List.nil_append]
    simp only [parseX, isTok_kw, kw_mem, String.reduceBEq, ↓reduceIte, hh1, hh2, hr1, hr2, Bool.and_self]
  | reach b l n pred =>
    simp only [XQuery.wf, Bool.and_eq_true, Bool.not_eq_true', List.isEmpty_eq_false_iff] at h
    obtain ⟨⟨⟨⟨hb, hr⟩, hg⟩, hne⟩, hp⟩ := h
    have hstop := contAt_kw "'}'" (by decide) (.colon :: .atom (.nat n) :: .colon :: P pred)
    have hpl := parseList_print l hne hg hstop nofun _ (Nat.lt_add_one _)
    have hpe := pE_print pred hp (rest := []) rfl
    rw [List.append_nil] at hpe
    simp only [printX, List.append_assoc, bndToks_runs hr]
    simp only [lits, List.cons_append, List.nil_append]
    simp only [parseX, isTok_kw, kw_mem, String.reduceBEq, Bool.false_eq_true, ↓reduceIte, parseBnd_print b hb, hpl, hpe, runs_getD hr]

end UtapModel.QuerySmc
