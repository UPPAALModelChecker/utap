/- What `C16.reach` computes (the least set of symbols that holds the entries and is closed under the productions),
   and a second way to compute the same set that is cheaper for the kernel: `reach` goes through the whole grammar
   round after round until nothing is added, `sweep` expands each member once, over its own productions, and compares
   strings through their `StrCode` numbers.  Everything is stated for a grammar `ps` and a nonterminal test `nt` as
   variables. -/
import UtapModel.Model.C16
import UtapModel.Lemmas.StrCode

namespace UtapModel.C16
open UtapModel.C16Grammar

variable (nt : String → Bool) (ps : List (String × List Item))

def addSyms (acc : List String) (items : List Item) : List String :=
  items.foldl (fun acc it => match it with
    | .sym s => if nt s && !acc.contains s then acc ++ [s] else acc
    | .call _ => acc) acc

/-- `reachStep` for any grammar and any test for nonterminals -/
def reachStepOf (seen : List String) : List String :=
  ps.foldl (fun acc p => if acc.contains p.1 then addSyms nt acc p.2 else acc) seen

def reachOf : Nat → List String → List String
  | 0, seen => seen
  | n + 1, seen => let s' := reachStepOf nt ps seen; if s'.length = seen.length then seen else reachOf n s'

def Closed (P : String → Prop) : Prop :=
  ∀ p ∈ ps, P p.1 → ∀ s, Item.sym s ∈ p.2 → nt s = true → P s

inductive Reachable (entries : List String) : String → Prop
  | entry {x} : x ∈ entries → Reachable entries x
  | step {p s} : p ∈ ps → Reachable entries p.1 → Item.sym s ∈ p.2 → nt s = true → Reachable entries s

variable {nt ps}

theorem Reachable.closed (entries : List String) : Closed nt ps (Reachable nt ps entries) :=
  fun _ hp h _ hs hn => .step hp h hs hn

theorem Reachable.least {entries P x} (hP : Closed nt ps P) (he : ∀ e ∈ entries, P e) (h : Reachable nt ps entries x) : P x := by
  induction h with
  | entry h => exact he _ h
  | step hp _ hs hn ih => exact hP _ hp ih _ hs hn

/-- `Inv` survives the one thing the computations below do to their list: appending a nonterminal symbol, not yet in
    the list, of a production whose left side is in the list -/
def StepInv (nt : String → Bool) (ps : List (String × List Item)) (Inv : List String → Prop) : Prop :=
  ∀ acc, Inv acc → ∀ p ∈ ps, p.1 ∈ acc → ∀ s, Item.sym s ∈ p.2 → nt s = true → s ∉ acc → Inv (acc ++ [s])

theorem StepInv.prefix (seen : List String) : StepInv nt ps (seen <+: ·) :=
  fun _ h _ _ _ _ _ _ _ => h.trans (List.prefix_append _ _)

theorem StepInv.nodup : StepInv nt ps List.Nodup :=
  fun _ h _ _ _ s _ _ hs => by simpa [List.nodup_append, h] using fun a ha (e : a = s) => hs (e ▸ ha)

theorem StepInv.forall {P} (hP : Closed nt ps P) : StepInv nt ps (∀ x ∈ ·, P x) :=
  fun _ h p hp hp1 s hs hn _ x hx => (List.mem_append.1 hx).elim (h x) fun hx =>
    List.mem_singleton.1 hx ▸ hP p hp (h _ hp1) s hs hn

theorem addSyms_inv {Inv : List String → Prop} {items acc} (h : Inv acc)
    (step : ∀ acc s, Inv acc → Item.sym s ∈ items → nt s = true → s ∉ acc → Inv (acc ++ [s])) : Inv (addSyms nt acc items) := by
  refine List.foldlRecOn items _ h fun acc h it hi => ?_
  cases it with
  | call _ => exact h
  | sym s =>
    dsimp only
    split
    · next hs =>
      have hs : nt s = true ∧ s ∉ acc := by simpa using hs
      exact step acc s h hi hs.1 hs.2
    · exact h

theorem reachStepOf_inv {Inv} (hI : StepInv nt ps Inv) {qs} (hqs : qs ⊆ ps) {seen} (h : Inv seen) : Inv (reachStepOf nt qs seen) := by
  refine List.foldlRecOn qs _ h fun acc h p hp => ?_
  split
  · next hc =>
    exact (addSyms_inv (Inv := fun a => Inv a ∧ p.1 ∈ a) ⟨h, List.contains_iff_mem.1 hc⟩ fun a s h hs hn hsa =>
      ⟨hI a h.1 p (hqs hp) h.2 s hs hn hsa, List.mem_append_left _ h.2⟩).1
  · exact h

theorem prefix_reachStepOf (qs seen) : seen <+: reachStepOf nt qs seen :=
  reachStepOf_inv (StepInv.prefix seen) (List.Subset.refl qs) (List.prefix_refl seen)

theorem mem_reachStepOf {p s seen} (hp : p ∈ ps) (hp1 : p.1 ∈ seen) (hs : Item.sym s ∈ p.2) (hn : nt s = true) :
    s ∈ reachStepOf nt ps seen := by
  -- split both folds where `s` is met: it is in the list right after, and the list only grows from there
  obtain ⟨l₁, l₂, rfl⟩ := List.append_of_mem hp
  obtain ⟨i₁, i₂, hi⟩ := List.append_of_mem hs
  have h₁ := List.contains_iff_mem.2 ((prefix_reachStepOf (nt := nt) l₁ seen).subset hp1)
  rw [reachStepOf] at h₁ ⊢
  rw [List.foldl_append, List.foldl_cons]
  refine (prefix_reachStepOf l₂ _).subset ?_
  rw [if_pos h₁, hi, addSyms, List.foldl_append, List.foldl_cons]
  refine (addSyms_inv (Inv := (_ <+: ·)) (List.prefix_refl _) fun _ _ h _ _ _ => h.trans (List.prefix_append _ _)).subset ?_
  dsimp only
  split
  · exact List.mem_append_right _ (List.mem_singleton_self s)
  · next h => simpa [hn] using h

theorem reachOf_inv {Inv} (hI : StepInv nt ps Inv) : ∀ n {seen}, Inv seen → Inv (reachOf nt ps n seen)
  | 0, _, h => h
  | n + 1, seen, h => by
    simp only [reachOf]
    split
    · exact h
    · exact reachOf_inv hI n (reachStepOf_inv hI (List.Subset.refl _) h)

/-- the fuel suffices as soon as some closed list is shorter than entries plus fuel: the list stays inside the closed
    one and without repetitions, and every round that does not end the iteration makes it longer -/
theorem closed_reachOf {L} (hL : Closed nt ps (· ∈ L)) :
    ∀ n {seen}, seen.Nodup → seen ⊆ L → L.length < seen.length + n → Closed nt ps (· ∈ reachOf nt ps n seen)
  | 0, _, hnd, hsub, hlen => absurd (hnd.length_le_of_subset hsub) (by omega)
  | n + 1, seen, hnd, hsub, hlen => by
    have hpre := prefix_reachStepOf (nt := nt) ps seen
    simp only [reachOf]
    split
    · next h => exact fun p hp hp1 s hs hn => hpre.eq_of_length h.symm ▸ mem_reachStepOf hp hp1 hs hn
    · next h =>
      have := hpre.length_le
      exact closed_reachOf hL n (reachStepOf_inv .nodup (List.Subset.refl _) hnd)
        (reachStepOf_inv (.forall hL) (List.Subset.refl _) hsub) (by omega)

theorem mem_reachOf_iff {L entries n x} (hL : Closed nt ps (· ∈ L)) (hnd : entries.Nodup) (hsub : entries ⊆ L)
    (hlen : L.length < entries.length + n) : x ∈ reachOf nt ps n entries ↔ Reachable nt ps entries x :=
  ⟨reachOf_inv (.forall (Reachable.closed entries)) n (fun _ => .entry) x,
   Reachable.least (closed_reachOf hL n hnd hsub hlen) (reachOf_inv (.prefix entries) n (List.prefix_refl _)).subset⟩

/-- `==` on the numbers of `StrCode`: the kernel compares numbers far faster than strings, and nearly all the comparisons
    below are between unequal strings -/
def eqS (a b : String) : Bool := Nat.beq (StrCode.code a) (StrCode.code b)

theorem eqS_eq (a b : String) : eqS a b = (a == b) := by
  rw [StrCode.beq_eq_code, eqS, Bool.eq_iff_iff, beq_iff_eq]
  exact ⟨Nat.eq_of_beq_eq_true, fun h => h ▸ Nat.beq_refl _⟩

theorem any_eqS (l : List String) (a : String) : l.any (eqS a) = l.contains a := by
  rw [List.contains_eq_any_beq, funext (eqS_eq a)]

/-- the left sides, one for each run of productions with the same left side -/
def lhss : List (String × List Item) → List String
  | p :: q :: ps => if p.1 == q.1 then lhss (q :: ps) else p.1 :: lhss (q :: ps)
  | ps => ps.map (·.1)

theorem any_lhss (f : String → Bool) : ∀ ps : List (String × List Item), (lhss ps).any f = ps.any (f ·.1)
  | [] | [_] => by simp [lhss]
  | p :: q :: ps => by
    have ih := any_lhss f (q :: ps)
    unfold lhss
    split
    · next h => simp [ih, eq_of_beq h]
    · simp [ih]

/-- `isNonterminal` for any grammar, looking through `lhss` -/
def ntOf (ps : List (String × List Item)) (s : String) : Bool := (lhss ps).any (eqS · s)

theorem ntOf_eq (ps : List (String × List Item)) : ntOf ps = fun s => ps.any (·.1 == s) := by
  funext s
  simp only [ntOf, any_lhss, eqS_eq]

theorem reach_eq_reachOf (n : Nat) (seen : List String) : reach n seen = reachOf (ntOf productions) productions n seen := by
  rw [ntOf_eq]
  induction n generalizing seen with
  | zero => rfl
  | succ n ih => simp only [reach, reachOf, ih]; rfl

/-- expand the members of the list one after the other, each once: the `i`-th by one step over its own productions -/
def sweep (nt : String → Bool) (ps : List (String × List Item)) : Nat → Nat → List String → List String
  | 0, _, seen => seen
  | n + 1, i, seen =>
    match seen[i]? with
    | none => seen
    | some x => sweep nt ps n (i + 1) (reachStepOf nt (ps.filter (eqS ·.1 x)) seen)

theorem sweep_inv {Inv} (hI : StepInv nt ps Inv) : ∀ n i {seen}, Inv seen → Inv (sweep nt ps n i seen)
  | 0, _, _, h => h
  | n + 1, i, seen, h => by
    unfold sweep
    split
    · exact h
    · exact sweep_inv hI n _ (reachStepOf_inv hI List.filter_sublist.subset h)

def closedB (nt : String → Bool) (ps : List (String × List Item)) (L : List String) : Bool :=
  ps.all fun p => !L.any (eqS p.1) || p.2.all fun it => match it with
    | .sym s => !nt s || L.any (eqS s)
    | .call _ => true

theorem closed_of_closedB {L} (h : closedB nt ps L = true) : Closed nt ps (· ∈ L) := by
  intro p hp hp1 s hs hn
  have h := List.all_eq_true.1 h p hp
  simp only [any_eqS] at h
  rw [List.contains_iff_mem.2 hp1] at h
  simpa [hn] using List.all_eq_true.1 h _ hs

theorem mem_sweep_iff {entries n x} (h : closedB nt ps (sweep nt ps n 0 entries) = true) :
    x ∈ sweep nt ps n 0 entries ↔ Reachable nt ps entries x :=
  ⟨sweep_inv (.forall (Reachable.closed entries)) n 0 (fun _ => .entry) x,
   Reachable.least (closed_of_closedB h) (sweep_inv (.prefix entries) n 0 (List.prefix_refl _)).subset⟩

theorem contains_reachOf_eq_sweep {entries n k} (hnd : entries.Nodup) (hc : closedB nt ps (sweep nt ps k 0 entries) = true)
    (hlen : (sweep nt ps k 0 entries).length < entries.length + n) :
    (reachOf nt ps n entries).contains = fun x => (sweep nt ps k 0 entries).any (eqS x) := by
  funext x
  rw [any_eqS]
  exact Bool.eq_iff_iff.2 <| List.contains_iff_mem.trans <| (mem_reachOf_iff (closed_of_closedB hc) hnd
    (sweep_inv (.prefix entries) k 0 (List.prefix_refl _)).subset hlen).trans <| (mem_sweep_iff hc).symm.trans List.contains_iff_mem.symm

end UtapModel.C16
