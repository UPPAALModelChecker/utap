/- The list inductions under the scope and the alias theorems of Props/C09.lean: the lookup in a frame, which carries the
   last match in an accumulator, finds the same entry after an injective renaming of the names (`find_go_ren`); a
   substitution of tokens that keeps `tokInfo` keeps what the operator parser reads (`mapM_map_info`).  Core Lean only. -/
import UtapModel.Model.C09Scope
import UtapModel.Model.C09Ops
namespace UtapModel.C09

theorem find_go_ren (ρ : List Ch → List Ch) (hinj : ∀ a b, ρ a = ρ b → a = b) (x : List Ch) :
    ∀ (f : Frame) (i : Nat) (acc : Option (Nat × Bool)),
      Frame.find.go (ρ x) (renFrame ρ f) i acc = Frame.find.go x f i acc := by
  intro f
  induction f with
  | nil => intro i acc; rfl
  | cons a f ih =>
    intro i acc
    obtain ⟨n, t⟩ := a
    simp only [renFrame, List.map_cons, Frame.find.go]
    have : (ρ n == ρ x) = (n == x) := by
      rw [Bool.eq_iff_iff, beq_iff_eq, beq_iff_eq]
      exact ⟨hinj n x, congrArg ρ⟩
    rw [this]
    exact ih (i + 1) _

theorem mapM_map_info (T : Tables) (f : Tok → Tok) (h : ∀ t, tokInfo T (f t) = tokInfo T t) (toks : List Tok) :
    (toks.map f).mapM (tokInfo T) = toks.mapM (tokInfo T) := by
  induction toks with
  | nil => rfl
  | cons a rest ih => simp only [List.map_cons, List.mapM_cons, h a, ih]

end UtapModel.C09
