/- Helper lemmas for Props/C07.lean: the frame-store machine refines the environment-stack semantics. -/
import UtapModel.Model.ScopeScript
import UtapModel.Lemmas.ListFacts

namespace UtapModel.Builder

/- The declarative semantics is made of `find?`, `findSome?` and `eraseP`; what C07 says about it is what the library says
   about those three. -/

theorem lookupScope_eq_some_iff {x : String} {sc : Scope} {d : Nat} :
    lookupScope x sc = some d ↔ x ≠ "" ∧ ∃ later earlier, sc = later ++ (x, d) :: earlier ∧ ∀ e ∈ later, e.1 ≠ x := by
  unfold lookupScope
  split
  · simp [*]
  · simp only [Option.map_eq_some_iff, List.find?_eq_some_iff_append, decide_eq_true_eq, Bool.not_eq_true', decide_eq_false_iff_not]
    constructor
    · rintro ⟨⟨_, _⟩, ⟨rfl, later, earlier, hs, hl⟩, rfl⟩
      exact ⟨‹_›, later, earlier, hs, hl⟩
    · rintro ⟨_, later, earlier, hs, hl⟩
      exact ⟨(x, d), ⟨rfl, later, earlier, hs, hl⟩, rfl⟩

theorem lookupScope_eq_none_iff {x : String} {sc : Scope} : lookupScope x sc = none ↔ x = "" ∨ ∀ e ∈ sc, e.1 ≠ x := by
  unfold lookupScope
  split <;> simp [*, List.find?_eq_none]

theorem lookupScopes_eq_findSome? (x : String) (scopes : List Scope) :
    lookupScopes x scopes = scopes.findSome? (lookupScope x) := by
  induction scopes with
  | nil => rfl
  | cons sc rest ih => rw [lookupScopes, List.findSome?_cons, ih]; cases lookupScope x sc <;> rfl

theorem withdraw_append {x : String} (hx : x ≠ "") {later : Scope} (hl : ∀ e ∈ later, e.1 ≠ x) (d : Nat) (earlier : Scope) :
    withdraw x (later ++ (x, d) :: earlier) = later ++ earlier := by
  rw [withdraw, if_neg hx, List.eraseP_append_right _ (by simpa using hl), List.eraseP_cons_of_pos (by simp)]

theorem withdraw_of_lookupScope_eq_none {x : String} {sc : Scope} (h : lookupScope x sc = none) : withdraw x sc = sc := by
  unfold withdraw
  split
  · rfl
  · exact List.eraseP_of_forall_not (by simpa [*] using lookupScope_eq_none_iff.mp h)

/-- scope denoted by a frame: its symbols as (name, id), latest first -/
def frameScope (syms : List Symbol) (f : Frame) : Scope := (f.syms.map (fun sid => (symName syms sid, sid))).reverse

theorem lookup_frameScope (syms : List Symbol) (f : Frame) (x : String) :
    f.lookup syms x = lookupScope x (frameScope syms f) := by
  unfold Frame.lookup lookupScope frameScope
  split
  · rfl
  · rw [← List.map_reverse, List.find?_map, Option.map_map]
    exact Option.map_id'.symm

/-- the frame stack is a chain of parent links ending in a root frame -/
def ChainOk (store : List Frame) : List FrameId → Prop
  | [] => False
  | [f] => ∃ fr, store[f]? = some fr ∧ fr.parent = none
  | f :: g :: rest => (∃ fr, store[f]? = some fr ∧ fr.parent = some g) ∧ ChainOk store (g :: rest)

/-- scopes[k] is the scope denoted by the k-th frame of the stack -/
def ScopesOk (syms : List Symbol) (store : List Frame) : List FrameId → List Scope → Prop
  | [], [] => True
  | f :: fs, sc :: scs => (∃ fr, store[f]? = some fr ∧ sc = frameScope syms fr) ∧ ScopesOk syms store fs scs
  | _, _ => False

theorem resolve_eq_lookup (syms : List Symbol) (store : List Frame) (x : String) :
    ∀ (stack : List FrameId) (scopes : List Scope) (fuel : Nat), ChainOk store stack → ScopesOk syms store stack scopes →
      stack.length ≤ fuel → resolveIn syms store fuel (stack.headD 0) x = lookupScopes x scopes := by
  intro stack
  induction stack with
  | nil => intro scopes fuel hc; exact hc.elim
  | cons f fs ih =>
    intro scopes fuel hc hs hfuel
    cases scopes with
    | nil => exact hs.elim
    | cons sc scs =>
      obtain ⟨⟨fr, hfr, hsc⟩, hrest⟩ := hs
      cases fuel with
      | zero => simp at hfuel
      | succ fuel =>
        simp only [List.headD_cons, resolveIn, hfr, lookupScopes]
        rw [lookup_frameScope, ← hsc]
        cases hl : lookupScope x sc with
        | some d => rfl
        | none =>
          cases fs with
          | nil =>
            obtain ⟨fr', hfr', hp⟩ := hc
            rw [hfr] at hfr'; cases hfr'
            simp only [hp]
            cases scs with
            | nil => rfl
            | cons _ _ => exact hrest.elim
          | cons g rest =>
            obtain ⟨⟨fr', hfr', hp⟩, hc'⟩ := hc
            rw [hfr] at hfr'; cases hfr'
            simp only [hp]
            exact ih scs fuel hc' hrest (Nat.le_of_succ_le_succ hfuel)

theorem symName_append {syms new : List Symbol} {sid : SymId} (h : sid < syms.length) : symName (syms ++ new) sid = symName syms sid := by
  unfold symName; rw [List.getElem?_append_left h]

theorem frameScope_append {syms new : List Symbol} {fr : Frame} (h : ∀ sid ∈ fr.syms, sid < syms.length) :
    frameScope (syms ++ new) fr = frameScope syms fr := by
  unfold frameScope
  congr 1
  exact List.map_congr_left fun sid hs => by rw [symName_append (h sid hs)]

theorem ScopesOk.congr {syms syms' : List Symbol} {store store' : List Frame} :
    ∀ {stack : List FrameId} {scopes : List Scope},
      (∀ f ∈ stack, ∀ fr, store[f]? = some fr → store'[f]? = some fr ∧ frameScope syms' fr = frameScope syms fr) →
      ScopesOk syms store stack scopes → ScopesOk syms' store' stack scopes := by
  intro stack
  induction stack with
  | nil => intro scopes _ h; cases scopes <;> exact h
  | cons f fs ih =>
    intro scopes hcg h
    cases scopes with
    | nil => exact h.elim
    | cons sc scs =>
      obtain ⟨⟨fr, hfr, hsc⟩, hrest⟩ := h
      obtain ⟨h1, h2⟩ := hcg f List.mem_cons_self fr hfr
      exact ⟨⟨fr, h1, by rw [hsc, h2]⟩, ih (fun g hg => hcg g (List.mem_cons_of_mem _ hg)) hrest⟩

theorem ChainOk.congr {store store' : List Frame} :
    ∀ {stack : List FrameId},
      (∀ f ∈ stack, ∀ fr, store[f]? = some fr → ∃ fr', store'[f]? = some fr' ∧ fr'.parent = fr.parent) →
      ChainOk store stack → ChainOk store' stack := by
  intro stack
  induction stack with
  | nil => intro _ h; exact h
  | cons f fs ih =>
    intro hcg h
    cases fs with
    | nil =>
      obtain ⟨fr, hfr, hp⟩ := h
      obtain ⟨fr', h1, h2⟩ := hcg f List.mem_cons_self fr hfr
      exact ⟨fr', h1, by rw [h2, hp]⟩
    | cons g rest =>
      obtain ⟨⟨fr, hfr, hp⟩, hc⟩ := h
      obtain ⟨fr', h1, h2⟩ := hcg f List.mem_cons_self fr hfr
      exact ⟨⟨fr', h1, by rw [h2, hp]⟩, ih (fun g' hg => hcg g' (List.mem_cons_of_mem _ hg)) hc⟩

theorem ScopesOk.length {syms : List Symbol} {store : List Frame} : ∀ {stack : List FrameId} {scopes : List Scope},
    ScopesOk syms store stack scopes → stack.length = scopes.length := by
  intro stack
  induction stack with
  | nil => intro scopes h; cases scopes with
    | nil => rfl
    | cons _ _ => exact h.elim
  | cons f fs ih =>
    intro scopes h
    cases scopes with
    | nil => exact h.elim
    | cons sc scs => simp [ih h.2]

theorem ChainOk.tail {store : List Frame} {f g : FrameId} {rest : List FrameId} (h : ChainOk store (f :: g :: rest)) :
    ChainOk store (g :: rest) := h.2

/-- the machine state denotes the environment `scopes`, `next` declarations made so far -/
structure Rel (s : SState) (scopes : List Scope) (next : Nat) : Prop where
  next_eq : next = s.syms.length
  chain : ChainOk s.store s.frames
  scopes_ok : ScopesOk s.syms s.store s.frames scopes
  sorted : s.frames.Pairwise (· > ·)
  bound : ∀ f ∈ s.frames, f < s.store.length
  sids : ∀ f ∈ s.frames, ∀ fr, s.store[f]? = some fr → ∀ sid ∈ fr.syms, sid < s.syms.length
  nodup : ∀ f ∈ s.frames, ∀ fr, s.store[f]? = some fr → fr.syms.Nodup

theorem Rel.init : Rel SState.init [[]] 0 := by
  refine ⟨rfl, ⟨⟨none, []⟩, rfl, rfl⟩, ⟨⟨⟨none, []⟩, rfl, rfl⟩, trivial⟩, ?_, ?_, ?_, ?_⟩ <;> simp [SState.init]

theorem Rel.use {s : SState} {scopes : List Scope} {next : Nat} (h : Rel s scopes next) (x : String) :
    s.use x = lookupScopes x scopes := by
  -- the fuel suffices: the ids on the stack are distinct and below store.length
  have hlen := List.Nodup.length_le_of_subset (h.sorted.imp Nat.ne_of_gt) fun f hf => List.mem_range.mpr (h.bound f hf)
  rw [List.length_range] at hlen
  exact resolve_eq_lookup s.syms s.store x s.frames scopes _ h.chain h.scopes_ok (Nat.le_succ_of_le hlen)

theorem Rel.top {s : SState} {sc : Scope} {scopes : List Scope} {next : Nat} (h : Rel s (sc :: scopes) next) :
    ∃ fr, s.store[s.top]? = some fr ∧ sc = frameScope s.syms fr ∧ (∀ sid ∈ fr.syms, sid < s.syms.length) ∧ fr.syms.Nodup := by
  have hs := h.scopes_ok
  cases hf : s.frames with
  | nil => rw [hf] at hs; exact hs.elim
  | cons f fs =>
    rw [hf] at hs
    obtain ⟨⟨fr, hfr, hsc⟩, -⟩ := hs
    have hm : f ∈ s.frames := hf ▸ List.mem_cons_self
    exact ⟨fr, by rwa [SState.top, hf], hsc, h.sids f hm fr hfr, h.nodup f hm fr hfr⟩

theorem Rel.leave {s : SState} {sc : Scope} {scopes : List Scope} {next : Nat} (h : Rel s (sc :: scopes) next) (hne : scopes ≠ []) :
    Rel s.leave scopes next := by
  obtain ⟨hn, hc, hs, hp, hb, hsid, hnod⟩ := h
  unfold SState.leave
  cases hf : s.frames with
  | nil => rw [hf] at hs; exact hs.elim
  | cons f fs =>
    rw [hf] at hc hs hp hb hsid hnod
    cases fs with
    | nil => cases scopes with
      | nil => exact absurd rfl hne
      | cons _ _ => exact hs.2.elim
    | cons g rest =>
      exact ⟨hn, hc.2, hs.2, (List.pairwise_cons.mp hp).2, fun f' hf' => hb f' (List.mem_cons_of_mem _ hf'),
        fun f' hf' => hsid f' (List.mem_cons_of_mem _ hf'), fun f' hf' => hnod f' (List.mem_cons_of_mem _ hf')⟩

/-- The top frame is rebuilt by `g` (same parent, symbols in range and distinct) while `new` symbols are appended to the
    heap: the relation goes on, with the top scope replaced by what the rebuilt frame denotes.  `declare` and `remove`
    are the two instances. -/
theorem Rel.modifyTop {s : SState} {sc : Scope} {scopes : List Scope} {next : Nat} (h : Rel s (sc :: scopes) next)
    (new : List Symbol) (g : Frame → Frame) {fr : Frame} (hfr : s.store[s.top]? = some fr) (hpar : (g fr).parent = fr.parent)
    (hlt : ∀ sid ∈ (g fr).syms, sid < (s.syms ++ new).length) (hnd : (g fr).syms.Nodup) :
    Rel ⟨s.syms ++ new, s.store.modify s.top g, s.frames⟩ (frameScope (s.syms ++ new) (g fr) :: scopes) (next + new.length) := by
  obtain ⟨hn, hc, hs, hp, hb, hsid, hnod⟩ := h
  cases hf : s.frames with
  | nil => rw [hf] at hs; exact hs.elim
  | cons f fs =>
    have htop : s.top = f := by simp [SState.top, hf]
    rw [htop] at hfr ⊢
    rw [hf] at hc hs hp hb hsid hnod
    have hold : ∀ f', f' ≠ f → (s.store.modify f g)[f']? = s.store[f']? :=
      fun f' hff => List.getElem?_modify_ne g _ (Ne.symm hff)
    have hmod : (s.store.modify f g)[f]? = some (g fr) := by rw [List.getElem?_modify_eq, hfr]; rfl
    have hnew : ∀ (f' : FrameId) (fr' : Frame), (s.store.modify f g)[f']? = some fr' → fr' = g fr ∨ s.store[f']? = some fr' :=
      fun f' fr' h' => (getElem?_modify_cases h').symm.imp (fun ⟨_, _, ha, e⟩ => Option.some.inj (hfr.symm.trans ha) ▸ e) id
    refine ⟨by simp [hn], ?_, ⟨⟨_, hmod, rfl⟩, ?_⟩, hp, ?_, ?_, ?_⟩
    · refine ChainOk.congr (fun f' _ fr' hfr' => ?_) hc
      by_cases hff : f' = f
      · subst hff; rw [hfr] at hfr'; cases hfr'; exact ⟨_, hmod, hpar⟩
      · exact ⟨fr', (hold f' hff).trans hfr', rfl⟩
    · have hfs : ∀ f' ∈ fs, f' ≠ f := fun f' hf' => Nat.ne_of_lt ((List.pairwise_cons.mp hp).1 f' hf')
      exact ScopesOk.congr (fun f' hf' fr' hfr' => ⟨(hold f' (hfs f' hf')).trans hfr',
        frameScope_append (hsid f' (List.mem_cons_of_mem _ hf') fr' hfr')⟩) hs.2
    · exact fun f' hf' => lt_length_modify (hb f' hf')
    · intro f' hf' fr' hfr' sid hm
      rcases hnew f' fr' hfr' with rfl | hfr'
      · exact hlt sid hm
      · exact lt_length_append (hsid f' hf' fr' hfr' sid hm)
    · intro f' hf' fr' hfr'
      rcases hnew f' fr' hfr' with rfl | hfr'
      · exact hnd
      · exact hnod f' hf' fr' hfr'

theorem Rel.declare {s : SState} {sc : Scope} {scopes : List Scope} {next : Nat} (h : Rel s (sc :: scopes) next) (x : String) :
    Rel (s.declare x) (((x, next) :: sc) :: scopes) (next + 1) := by
  obtain ⟨fr, hfr, hsc, hlt, hnd⟩ := h.top
  have := h.modifyTop [⟨x, .var ⟨false⟩, none⟩] (fun f => { f with syms := f.syms ++ [s.syms.length] }) hfr rfl ?_ ?_
  · have hsc' : frameScope (s.syms ++ [⟨x, .var ⟨false⟩, none⟩]) { fr with syms := fr.syms ++ [s.syms.length] } = (x, next) :: sc := by
      rw [hsc, h.next_eq, ← frameScope_append (new := [⟨x, .var ⟨false⟩, none⟩]) hlt]
      simp [frameScope, symName]
    rw [hsc'] at this
    exact this
  · intro sid hm
    rcases List.mem_append.mp hm with h1 | h1
    · exact lt_length_append (hlt sid h1)
    · simp at h1; simp [h1]
  · refine List.nodup_append.mpr ⟨hnd, by simp, ?_⟩
    intro a ha b hb hab
    simp at hb
    exact Nat.lt_irrefl _ (hb ▸ hab ▸ hlt a ha)

theorem modify_concat_length {α} (l : List α) (a : α) (f : α → α) : (l ++ [a]).modify l.length f = l ++ [f a] := by
  induction l with
  | nil => simp [List.modify]
  | cons b t ih => simp [ih]

theorem enter_declare (s : SState) (bs : List String) (x : String) : (s.enter bs).declare x = s.enter (bs ++ [x]) := by
  simp [SState.enter, SState.declare, SState.top, mkSyms, modify_concat_length, List.range_succ]

theorem binderScope_concat (next : Nat) (bs : List String) (x : String) (acc : Scope) :
    binderScope next (bs ++ [x]) acc = (x, next + bs.length) :: binderScope next bs acc := by
  induction bs generalizing next acc with
  | nil => rfl
  | cons b bs ih => rw [List.cons_append, binderScope, ih, List.length_cons, Nat.add_right_comm, Nat.add_assoc]; rfl

/-- `push_frame(frame_t::create(frames.top()))` -/
theorem Rel.enter_nil {s : SState} {scopes : List Scope} {next : Nat} (h : Rel s scopes next) :
    Rel (s.enter []) ([] :: scopes) next := by
  obtain ⟨hn, hc, hs, hp, hb, hsid, hnod⟩ := h
  have hold : ∀ f' ∈ s.frames, (s.store ++ [⟨some s.top, []⟩])[f']? = s.store[f']? :=
    fun f' hf' => List.getElem?_append_left (hb f' hf')
  -- a frame of the new stack is the new, empty frame or a frame of the old stack
  have hnew : ∀ f' ∈ s.store.length :: s.frames, ∀ fr : Frame, (s.store ++ [⟨some s.top, []⟩])[f']? = some fr →
      fr.syms = [] ∨ f' ∈ s.frames ∧ s.store[f']? = some fr := by
    intro f' hf' fr hfr
    rcases List.mem_cons.mp hf' with rfl | h1
    · rw [List.getElem?_concat_length] at hfr; exact .inl (Option.some.inj hfr ▸ rfl)
    · exact .inr ⟨h1, hold f' h1 ▸ hfr⟩
  cases hf : s.frames with
  | nil => rw [hf] at hc; exact hc.elim
  | cons f fs =>
    have htop : s.top = f := by simp [SState.top, hf]
    refine ⟨by simp [SState.enter, mkSyms, hn], ?_, ?_, ?_, ?_, ?_, ?_⟩ <;>
      simp only [SState.enter, mkSyms, List.map_nil, List.append_nil, List.length_nil, List.range_zero]
    · rw [hf] at hc hold ⊢
      exact ⟨⟨_, List.getElem?_concat_length, htop ▸ rfl⟩,
        ChainOk.congr (fun f' hf' fr hfr => ⟨fr, (hold f' hf').trans hfr, rfl⟩) hc⟩
    · exact ⟨⟨_, List.getElem?_concat_length, rfl⟩, ScopesOk.congr (fun f' hf' fr hfr => ⟨(hold f' hf').trans hfr, rfl⟩) hs⟩
    · exact List.pairwise_cons.mpr ⟨hb, hp⟩
    · intro f' hf'
      rw [List.length_append, List.length_singleton]
      rcases List.mem_cons.mp hf' with rfl | h1
      · exact Nat.lt_succ_self _
      · exact Nat.lt_succ_of_lt (hb f' h1)
    · intro f' hf' fr hfr sid hm
      rcases hnew f' hf' fr hfr with h0 | ⟨h1, hfr⟩
      · rw [h0] at hm; cases hm
      · exact hsid f' h1 fr hfr sid hm
    · intro f' hf' fr hfr
      rcases hnew f' hf' fr hfr with h0 | ⟨h1, hfr⟩
      · rw [h0]; exact List.nodup_nil
      · exact hnod f' h1 fr hfr

theorem Rel.enter {s : SState} {scopes : List Scope} {next : Nat} (h : Rel s scopes next) (bs : List String) :
    Rel (s.enter bs) (binderScope next bs [] :: scopes) (next + bs.length) := by
  -- as in the source: the frame is pushed empty and the binders are declared one after the other
  have : ∀ l : List String, Rel (s.enter l.reverse) (binderScope next l.reverse [] :: scopes) (next + l.length) := by
    intro l
    induction l with
    | nil => exact h.enter_nil
    | cons x l ih =>
      rw [List.reverse_cons, ← enter_declare, binderScope_concat, List.length_reverse]
      exact ih.declare x
  simpa using this bs.reverse

theorem eraseP_eq_filter_of_find? {α : Type} [DecidableEq α] {p : α → Bool} {l : List α} {a : α} (hnd : l.Nodup)
    (h : l.find? p = some a) : l.eraseP p = l.filter (· ≠ a) := by
  obtain ⟨hp, as, bs, rfl, has⟩ := List.find?_eq_some_iff_append.mp h
  obtain ⟨-, hbs, hd⟩ := List.nodup_append.mp hnd
  have h1 : ∀ b ∈ as, b ≠ a := fun b hb => hd b hb a List.mem_cons_self
  have h2 : ∀ b ∈ bs, b ≠ a := fun b hb hba => (List.nodup_cons.mp hbs).1 (hba ▸ hb)
  rw [List.eraseP_append_right _ (by simpa using has), List.eraseP_cons_of_pos hp, List.filter_append,
    List.filter_cons_of_neg (by simp), List.filter_eq_self.mpr (by simpa using h1), List.filter_eq_self.mpr (by simpa using h2)]

theorem Rel.remove {s : SState} {sc : Scope} {scopes : List Scope} {next : Nat} (h : Rel s (sc :: scopes) next) (x : String) :
    Rel (s.remove x) (withdraw x sc :: scopes) next := by
  obtain ⟨fr, hfr, hsc, hlt, hnd⟩ := h.top
  cases hl : fr.lookup s.syms x with
  | none =>
    -- the top frame holds no symbol of that name: nothing is removed, and nothing is withdrawn
    have hrm : s.remove x = s := by simp [SState.remove, hfr, hl]
    rw [hrm, withdraw_of_lookupScope_eq_none (by rw [hsc, ← lookup_frameScope]; exact hl)]
    exact h
  | some sid =>
    have hx : x ≠ "" := by intro hx; simp [Frame.lookup, hx] at hl
    have hfind : fr.syms.reverse.find? (fun s' => symName s.syms s' = x) = some sid := by simpa [Frame.lookup, hx] using hl
    have := h.modifyTop [] (fun f => { f with syms := f.syms.filter (· ≠ sid) }) hfr rfl
      (fun sid' hm => by simpa using hlt sid' (List.mem_filter.mp hm).1) (hnd.filter _)
    have hrm : s.remove x = ⟨s.syms ++ [], s.store.modify s.top (fun f => { f with syms := f.syms.filter (· ≠ sid) }), s.frames⟩ := by
      simp [SState.remove, hfr, hl]
    have hsc' : frameScope (s.syms ++ []) { fr with syms := fr.syms.filter (· ≠ sid) } = withdraw x sc := by
      have := eraseP_eq_filter_of_find? (List.pairwise_reverse.mpr (hnd.imp Ne.symm)) hfind
      rw [withdraw, if_neg hx, hsc, List.append_nil]
      unfold frameScope
      rw [← List.map_reverse, ← List.map_reverse, List.eraseP_map, ← List.filter_reverse, ← this]
      rfl
    rw [hrm, ← hsc']
    exact this

theorem impl_eq_spec : ∀ (evs : List Ev) (s : SState) (scopes : List Scope) (next : Nat) (d : Nat),
    Rel s scopes next → scopes.length = d + 1 → wellNested d evs = true → implRun s evs = specRun scopes next evs := by
  intro evs
  induction evs with
  | nil => intros; rfl
  | cons e r ih =>
    intro s scopes next d h hd hw
    obtain ⟨sc, rest, rfl⟩ : ∃ sc rest, scopes = sc :: rest := by
      cases scopes with
      | nil => simp at hd
      | cons sc rest => exact ⟨sc, rest, rfl⟩
    cases e with
    | use x => simp only [implRun, specRun, wellNested] at hw ⊢; rw [h.use x, ih s _ next d h hd hw]
    | declare x => exact ih _ _ _ d (h.declare x) hd hw
    | remove x => exact ih _ _ _ d (h.remove x) hd hw
    | enter bs => exact ih _ _ _ (d + 1) (h.enter bs) (by simp [hd]) hw
    | leave =>
      simp only [wellNested, Bool.and_eq_true, decide_eq_true_eq] at hw
      cases d with
      | zero => omega
      | succ d' =>
        have hne : rest ≠ [] := by intro h0; subst h0; simp at hd
        exact ih _ _ _ d' (h.leave hne) (by simpa using hd) hw.2

end UtapModel.Builder
