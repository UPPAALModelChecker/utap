/- Helper lemmas of C04: the builder state machine run on the closed-form callback list of a well-formed template
   appends exactly the specified template to the document.  At the end, facts about the specification alone: what
   `docOf` keeps, `bindFirst`, and that `wf0` without an exception shape is `wf`. -/
import UtapModel.Lemmas.C04Reader
namespace UtapModel.AM

theorem run_append (s : BState) (a b : List Call) : run s (a ++ b) = run (run s a) b := List.foldl_append

theorem run_cons (s : BState) (c : Call) (cs : List Call) : run s (c :: cs) = run (step s c) cs := rfl
theorem run_nil (s : BState) : run s [] = s := rfl

/-- between two top-level items: nothing open, all stacks empty -/
def idle (d : Doc) (p : Nat) (es : List String) : BState := { doc := d, prio := p, errs := es }

/-- inside template `T`, between two of its items -/
def inTempl (b : BState) (T : BTempl) : BState := { b with frags := [], cur := some T, edge := none }

/-- inside edge `e` of template `T`, between two of its labels -/
def inEdge (b : BState) (T : BTempl) (e : BEdge) : BState := { b with frags := [], cur := some T, edge := some e }

def namesOf (T : BTempl) : List String :=
  T.params.map (·.name) ++ T.decls.map (·.name) ++ T.locs.map (·.name) ++ T.bps

theorem declared_false (T : BTempl) (n : String) (h : n ∉ namesOf T) : declared T n = false := by
  simp only [namesOf, List.mem_append, List.mem_map, not_or] at h
  simp [declared, symKind, h]

theorem symKind_loc (T : BTempl) (n : String) (hl : n ∈ T.locs.map (·.name)) (hb : n ∉ T.bps) : symKind T n = some .loc := by
  obtain ⟨x, hx, rfl⟩ := List.mem_map.mp hl
  have h2 : T.locs.any (·.name == x.name) = true := List.any_eq_true.mpr ⟨x, hx, by simp⟩
  simp [symKind, hb, h2]

theorem symKind_bp (T : BTempl) (n : String) (hb : n ∈ T.bps) : symKind T n = some .bp := by
  simp [symKind, hb]

theorem updateLast_snoc {α} {p : α → Bool} (f : α → α) (l : List α) {a : α} (h : p a = true) :
    updateLast p f (l ++ [a]) = l ++ [f a] := by
  induction l with
  | nil => simp [updateLast, h]
  | cons x r ih => simp [updateLast, ih, h]

/-- callbacks `c x` each of which appends `x` to a list held in the state append the whole list -/
theorem run_map {α} (S : List α → BState) (c : α → Call) (h : ∀ acc x, step (S acc) (c x) = S (acc ++ [x]))
    (acc xs : List α) : run (S acc) (xs.map c) = S (acc ++ xs) := by
  induction xs generalizing acc with
  | nil => rw [List.append_nil, List.map_nil, run_nil]
  | cons x r ih => rw [List.map_cons, run_cons, h, ih, List.append_assoc, List.singleton_append]

theorem run_params (s : BState) (ps : List Param) :
    run s (ps.map .declParam) = { s with params := s.params ++ ps } :=
  run_map (fun a => { s with params := a }) .declParam (fun _ _ => rfl) s.params ps

theorem run_push {α} (f : α → Key) (s : BState) (xs : List α) :
    run s (xs.map fun x => .pushExpr (f x)) = { s with frags := (xs.map f).reverse ++ s.frags } :=
  run_map (fun a => { s with frags := (a.map f).reverse ++ s.frags }) _
    (fun _ _ => by
      rw [List.map_append, List.reverse_append]
      rfl) [] xs

theorem run_gdecls (d : Doc) (p : Nat) (es : List String) (ds : List Decl) :
    run (idle d p es) (ds.map .declItem) = idle { d with gdecls := d.gdecls ++ ds } p es :=
  run_map (fun a => idle { d with gdecls := a } p es) .declItem (fun _ _ => rfl) d.gdecls ds

theorem run_decls (b : BState) (T : BTempl) (ds : List Decl) :
    run (inTempl b T) (ds.map .declItem) = inTempl b { T with decls := T.decls ++ ds } :=
  run_map (fun a => inTempl b { T with decls := a }) .declItem (fun _ _ => rfl) T.decls ds

theorem labelsOrdered_cases {ls : List (LocKind × Key)} (h : labelsOrdered ls = true) :
    ls = [] ∨ (∃ x, ls = [x]) ∨ ∃ a b, ls = [(.invariant, a), (.exponentialrate, b)] := by
  unfold labelsOrdered at h
  split at h
  · exact .inl rfl
  · exact .inr (.inl ⟨_, rfl⟩)
  · exact .inr (.inr ⟨_, _, rfl⟩)
  · cases h

/-- `proc_location` pops the rate, then the invariant: with the labels in the reader's order each gets its own -/
theorem pop_labels (ls : List (LocKind × Key)) (h : labelsOrdered ls = true) :
    (popOpt (hasKind .exponentialrate ls) (ls.map (·.2)).reverse).1 = lookupLabel .exponentialrate ls ∧
    popOpt (hasKind .invariant ls) (popOpt (hasKind .exponentialrate ls) (ls.map (·.2)).reverse).2
      = (lookupLabel .invariant ls, []) := by
  rcases labelsOrdered_cases h with rfl | ⟨⟨k, _⟩, rfl⟩ | ⟨_, _, rfl⟩
  · exact ⟨rfl, rfl⟩
  · cases k <;> exact ⟨rfl, rfl⟩
  · exact ⟨rfl, rfl⟩

theorem step_commit (b : BState) (T : BTempl) (n : String) (hk : symKind T n = some .loc)
    (hu : ∀ x ∈ T.locs, x.name = n → x.urgent = false) :
    step (inTempl b T) (.procLocationCommit n)
      = inTempl b { T with locs := updateLast (·.name == n) (fun l => { l with committed := true }) T.locs } := by
  have : T.locs.any (fun l => l.name == n && l.urgent) = false := by simpa using hu
  dsimp only [inTempl, step]
  rw [hk]
  dsimp only
  rw [this]
  rfl

theorem step_urgent (b : BState) (T : BTempl) (n : String) (hk : symKind T n = some .loc)
    (hc : ∀ x ∈ T.locs, x.name = n → x.committed = false) :
    step (inTempl b T) (.procLocationUrgent n)
      = inTempl b { T with locs := updateLast (·.name == n) (fun l => { l with urgent := true }) T.locs } := by
  have : T.locs.any (fun l => l.name == n && l.committed) = false := by simpa using hc
  dsimp only [inTempl, step]
  rw [hk]
  dsimp only
  rw [this]
  rfl

theorem inTempl_frags (b : BState) (T : BTempl) : (inTempl b T).frags = [] := rfl

/-- `fr` is what the labels of the location have pushed: the two pops use it up -/
theorem step_location (b : BState) (T : BTempl) (n : String) (hi he : Bool) (fr : List Key) {e : Option Key}
    (hd : declared T n = false) (hp : popOpt hi (popOpt he fr).2 = (e, [])) :
    step { inTempl b T with frags := fr } (.procLocation n hi he)
      = inTempl b { T with locs := T.locs ++ [{ name := n, inv := e, rate := (popOpt he fr).1, urgent := false, committed := false }] } := by
  dsimp only [inTempl, step]
  rw [hd, hp]
  rfl

theorem step_branchpoint (b : BState) (T : BTempl) (n : String) (hd : declared T n = false) :
    step (inTempl b T) (.procBranchpoint n) = inTempl b { T with bps := T.bps ++ [n] } := by
  dsimp only [inTempl, step]
  rw [hd]
  rfl

theorem step_init (b : BState) (T : BTempl) (n : String) (hk : symKind T n = some .loc) :
    step (inTempl b T) (.procLocationInit n) = inTempl b { T with init := some n } := by
  dsimp only [inTempl, step]
  rw [hk]

theorem step_edgeBegin (b : BState) (T : BTempl) {n1 n2 : String} {a c : Endpoint} (ctrl : Bool)
    (h1 : endpointFor T n1 = some a) (h2 : endpointFor T n2 = some c) :
    step (inTempl b T) (.procEdgeBegin n1 n2 ctrl) = inEdge b T (edge0 a c ctrl) := by
  dsimp only [inTempl, step]
  rw [h1, h2]
  rfl

theorem step_edgeEnd (b : BState) (T : BTempl) (e : BEdge) (n1 n2 : String) :
    step (inEdge b T e) (.procEdgeEnd n1 n2) = inTempl b { T with edges := T.edges ++ [e] } := rfl

theorem step_end (d : Doc) (p : Nat) (es : List String) (T : BTempl) :
    step (inTempl (idle d p es) T) .procEnd = idle { d with templates := d.templates ++ [T] } p es := rfl

theorem run_loc (b : BState) (T : BTempl) (l : ALoc) (hn : l.effName ∉ namesOf T) (hw : l.wf = true) :
    run (inTempl b T) (locCallsX l) = inTempl b { T with locs := T.locs ++ [locOf l] } := by
  have hw' : labelsOrdered l.labels = true ∧ (l.urgent = false ∨ l.committed = false) := by simpa [ALoc.wf] using hw
  obtain ⟨hpop1, hpop2⟩ := pop_labels l.labels hw'.1
  -- the location as `proc_location` adds it; it is the only one of its name
  let x0 : BLoc := { locOf l with urgent := false, committed := false }
  have h1 : run (inTempl b T) (l.labels.map (fun p => Call.pushExpr p.2) ++
        [.procLocation l.effName (hasKind .invariant l.labels) (hasKind .exponentialrate l.labels)])
      = inTempl b { T with locs := T.locs ++ [x0] } := by
    rw [run_append, run_push, inTempl_frags, List.append_nil, run_cons, run_nil,
      step_location b T _ _ _ _ (declared_false T l.effName hn) hpop2, hpop1]
    rfl
  have hk : symKind { T with locs := T.locs ++ [x0] } l.effName = some .loc :=
    symKind_loc _ _ (by simp [x0, locOf]) fun h => hn (by simp [namesOf, h])
  have hlast : ∀ x ∈ T.locs ++ [x0], x.name = l.effName → x = x0 := fun x hx hxn =>
    (List.mem_append.mp hx).elim
      (fun hx => absurd (List.mem_append_left _ (List.mem_append_right _ (List.mem_map.mpr ⟨x, hx, hxn⟩))) hn)
      List.eq_of_mem_singleton
  rw [locCallsX, run_append, run_append, h1]
  cases hu : l.urgent <;> cases hc : l.committed
  · simp [run, locOf, hu, hc, x0]
  · rw [if_pos rfl, if_neg Bool.false_ne_true, run_nil, run_cons, run_nil,
      step_commit b _ _ hk fun x hx hxn => hlast x hx hxn ▸ rfl, updateLast_snoc _ _ (by simp [x0, locOf])]
    simp [locOf, hu, hc, x0]
  · rw [if_neg Bool.false_ne_true, if_pos rfl, run_nil, run_cons, run_nil,
      step_urgent b _ _ hk fun x hx hxn => hlast x hx hxn ▸ rfl, updateLast_snoc _ _ (by simp [x0, locOf])]
    simp [locOf, hu, hc, x0]
  · simp [hu, hc] at hw'

/-- the current template while its locations and branchpoints are being added -/
def templ0 (t : ATempl) (ls : List BLoc) (bs : List String) : BTempl :=
  { name := t.name, params := t.params, decls := t.decls, locs := ls, bps := bs, init := none, edges := [] }

theorem map_locOf_name (ls : List ALoc) : (ls.map locOf).map (·.name) = ls.map (·.effName) :=
  List.map_map

theorem namesOf_templ0 (t : ATempl) (ls : List BLoc) (bs : List String) :
    namesOf (templ0 t ls bs) = t.reserved ++ ls.map (·.name) ++ bs := rfl

theorem run_locs (b : BState) (t : ATempl) (L : List BLoc) (ls : List ALoc)
    (hnd : (L.map (·.name) ++ ls.map (·.effName)).Nodup) (hr : ∀ l ∈ ls, l.effName ∉ t.reserved)
    (hw : ∀ l ∈ ls, l.wf = true) :
    run (inTempl b (templ0 t L [])) (ls.flatMap locCallsX) = inTempl b (templ0 t (L ++ ls.map locOf) []) := by
  induction ls generalizing L with
  | nil => simp [run]
  | cons l r ih =>
    have hn : l.effName ∉ namesOf (templ0 t L []) := by
      simpa [namesOf_templ0, hr l] using fun x hx h => (List.nodup_append.mp hnd).2.2 _ (List.mem_map_of_mem hx) l.effName (by simp) h
    rw [List.flatMap_cons, run_append, run_loc b _ l hn (hw l (by simp))]
    refine (ih (L ++ [locOf l]) (by simpa [locOf] using hnd) (fun x hx => hr x (by simp [hx])) (fun x hx => hw x (by simp [hx]))).trans ?_
    simp

theorem run_bps (b : BState) (t : ATempl) (L : List BLoc) (B bs : List String) (hnd : (B ++ bs).Nodup)
    (hn : ∀ x ∈ bs, x ∉ t.reserved ∧ x ∉ L.map (·.name)) :
    run (inTempl b (templ0 t L B)) (bs.map .procBranchpoint) = inTempl b (templ0 t L (B ++ bs)) := by
  induction bs generalizing B with
  | nil => simp [run]
  | cons x r ih =>
    have hd : declared (templ0 t L B) x = false :=
      declared_false _ x (by simpa [namesOf_templ0, hn x] using fun h => (List.nodup_append.mp hnd).2.2 _ h x (by simp) rfl)
    rw [List.map_cons, run_cons, step_branchpoint b _ x hd]
    refine (ih (B ++ [x]) (by simpa using hnd) (fun y hy => hn y (by simp [hy]))).trans ?_
    simp

theorem run_selects (b : BState) (T : BTempl) (e : BEdge) (bs : List (String × Key)) :
    run (inEdge b T e) (bs.map fun x => .procSelect x.1 x.2) = inEdge b T { e with select := e.select ++ bs } :=
  run_map (fun a => inEdge b T { e with select := a }) _ (fun _ _ => rfl) e.select bs

theorem run_label (b : BState) (T : BTempl) (e : BEdge) (l : ELabel) :
    run (inEdge b T e) (labelCalls l) = inEdge b T (applyLabel e l) := by
  cases l with
  | select bs => exact run_selects b T e bs
  | _ => rfl

theorem run_labels (b : BState) (T : BTempl) (e : BEdge) (ls : List ELabel) :
    run (inEdge b T e) (ls.flatMap labelCalls) = inEdge b T (ls.foldl applyLabel e) := by
  induction ls generalizing e with
  | nil => rfl
  | cons l r ih => rw [List.flatMap_cons, run_append, run_label, ih, List.foldl_cons]

/-- a reference of `t`, as the reader's `names` map and as the specification resolve it: to a location if one has the
    id, otherwise to a branchpoint -/
theorem ref_cases (t : ATempl) {r : String} (h : r ∈ t.nodeIds) :
    (∃ l ∈ t.locs, nameOf t r = some l.effName ∧ endpointOf t r = some (.loc l.effName)) ∨
    r ∈ t.bps ∧ nameOf t r = some (bpName r) ∧ endpointOf t r = some (.bp (bpName r)) := by
  rcases find_ref t h with ⟨l, hl, -, hf⟩ | ⟨hf, hb⟩
  · exact .inl ⟨l, hl, by simp [nameOf, hf], by simp [endpointOf, hf]⟩
  · exact .inr ⟨hb, by simp [nameOf, hf, hb], by simp [endpointOf, hf, hb]⟩

theorem ref_resolves (t : ATempl) {r : String} (h : r ∈ t.nodeIds) :
    (∃ n, nameOf t r = some n) ∧ ∃ ep, endpointOf t r = some ep := by
  rcases ref_cases t h with ⟨l, -, hn, hep⟩ | ⟨-, hn, hep⟩ <;> exact ⟨⟨_, hn⟩, _, hep⟩

theorem endpoint_resolve (T : BTempl) (t : ATempl) (r : String)
    (hT : T.locs.map (·.name) = t.locs.map (·.effName) ∧ T.bps = t.bps.map bpName)
    (hnd : t.effNames.Nodup) (hr : r ∈ t.nodeIds) :
    ∃ n ep, nameOf t r = some n ∧ endpointOf t r = some ep ∧ endpointFor T n = some ep := by
  rcases ref_cases t hr with ⟨l, hl, hn, hep⟩ | ⟨hb, hn, hep⟩
  · have hmem : l.effName ∈ t.locs.map (·.effName) := List.mem_map_of_mem hl
    have hk := symKind_loc T l.effName (hT.1 ▸ hmem) (hT.2 ▸ fun hbp => (List.nodup_append.mp hnd).2.2 _ hmem _ hbp rfl)
    exact ⟨_, _, hn, hep, by simp [endpointFor, hk]⟩
  · have hk := symKind_bp T (bpName r) (hT.2 ▸ List.mem_map_of_mem hb)
    exact ⟨_, _, hn, hep, by simp [endpointFor, hk]⟩

theorem run_edge (b : BState) (T : BTempl) (t : ATempl) (e : AEdge)
    (hT : T.locs.map (·.name) = t.locs.map (·.effName) ∧ T.bps = t.bps.map bpName)
    (hnd : t.effNames.Nodup) (he : e.src ∈ t.nodeIds ∧ e.tgt ∈ t.nodeIds) :
    ∃ be, edgeOf t e = some be ∧
      run (inTempl b T) (edgeCallsX t e) = inTempl b { T with edges := T.edges ++ [be] } := by
  obtain ⟨n1, a, h1, h2, h3⟩ := endpoint_resolve T t e.src hT hnd he.1
  obtain ⟨n2, c, h4, h5, h6⟩ := endpoint_resolve T t e.tgt hT hnd he.2
  refine ⟨e.labels.foldl applyLabel (edge0 a c (ctrlOf e.ctrl)), by simp [edgeOf, h2, h5], ?_⟩
  simp only [edgeCallsX, h1, h4, run_append, run_cons, run_nil, step_edgeBegin b T _ h3 h6, run_labels, step_edgeEnd]

theorem run_edges (b : BState) (T : BTempl) (t : ATempl) (es : List AEdge)
    (hT : T.locs.map (·.name) = t.locs.map (·.effName) ∧ T.bps = t.bps.map bpName)
    (hnd : t.effNames.Nodup) (h : ∀ e ∈ es, e.src ∈ t.nodeIds ∧ e.tgt ∈ t.nodeIds) :
    run (inTempl b T) (es.flatMap (edgeCallsX t)) = inTempl b { T with edges := T.edges ++ es.filterMap (edgeOf t) } := by
  induction es generalizing T with
  | nil => simp [run]
  | cons e r ih =>
    obtain ⟨be, hbe, hrun⟩ := run_edge b T t e hT hnd (h e (by simp))
    rw [List.flatMap_cons, run_append, hrun, ih { T with edges := T.edges ++ [be] } hT (fun x hx => h x (by simp [hx]))]
    simp [hbe]

structure TemplWf (t : ATempl) : Prop where
  ids : t.nodeIds.Nodup
  names : t.effNames.Nodup
  reserved : ∀ n ∈ t.effNames, n ∉ t.reserved
  locs : ∀ l ∈ t.locs, l.wf = true
  init : ∃ r, t.init = some r ∧ r ∈ t.locs.map (·.id)
  edges : ∀ e ∈ t.edges, e.src ∈ t.nodeIds ∧ e.tgt ∈ t.nodeIds

theorem templWf_of (t : ATempl) (h : t.wf = true) : TemplWf t := by
  simp only [ATempl.wf, Bool.and_eq_true, decide_eq_true_eq, List.all_eq_true, Bool.not_eq_true', List.contains_eq_mem,
    decide_eq_false_iff_not] at h
  obtain ⟨⟨⟨⟨⟨h1, h2⟩, h3⟩, h4⟩, h5⟩, h6⟩ := h
  refine ⟨h1, h2, h3, h4, ?_, by simpa using h6⟩
  cases hi : t.init with
  | none => simp [hi] at h5
  | some r => exact ⟨r, rfl, by simpa [hi] using h5⟩

theorem templWf_of_wf {M : AModel} (h : M.wf = true) : ∀ t ∈ M.templates, TemplWf t :=
  fun t ht => templWf_of t (List.all_eq_true.mp h t ht)

/-- the initial location of a well-formed template, and the one callback either front end fires for it -/
theorem TemplWf.init_loc {t : ATempl} (h : TemplWf t) :
    ∃ r li, t.init = some r ∧ li ∈ t.locs ∧ t.locs.find? (·.id == r) = some li ∧
      initCallsX t = [.procLocationInit li.effName] := by
  obtain ⟨r, hinit, hrmem⟩ := h.init
  obtain ⟨li, hli, -, hfind⟩ := find_loc hrmem
  exact ⟨r, li, hinit, hli, hfind, by simp [initCallsX, hinit, nameOf, hfind]⟩

theorem TemplWf.reader {t : ATempl} (h : TemplWf t) : ReaderWf t := by
  obtain ⟨r, hr, hmem⟩ := h.init
  exact ⟨h.ids, fun r' hr' => Option.some.inj (hr.symm.trans hr') ▸ List.mem_append_left _ hmem, h.edges⟩

/-- locations `ls` named as those of `t` (they may differ in their flags), then the branchpoints of `t` -/
theorem run_locs_bps (b : BState) (t : ATempl) (hw : TemplWf t) (ls : List ALoc)
    (hn : ls.map (·.effName) = t.locs.map (·.effName)) (hwf : ∀ l ∈ ls, l.wf = true) :
    run (inTempl b (templ0 t [] [])) (ls.flatMap locCallsX ++ (t.bps.map bpName).map .procBranchpoint)
      = inTempl b (templ0 t (ls.map locOf) (t.bps.map bpName)) := by
  obtain ⟨hnl, hnb, hdisj⟩ := List.nodup_append.mp hw.names
  have hL : (ls.map locOf).map (·.name) = t.locs.map (·.effName) := (map_locOf_name ls).trans hn
  rw [run_append, run_locs b t [] ls (hn ▸ hnl) (fun l hl => hw.reserved _ (List.mem_append_left _ (hn ▸ List.mem_map_of_mem hl))) hwf]
  exact run_bps b t _ [] _ hnb fun x hx =>
    ⟨hw.reserved x (List.mem_append_right _ hx), fun hmem => hdisj x (hL ▸ hmem) x hx rfl⟩

/-- a template's callbacks build `templOf t` whatever callbacks `mid` are used for its locations and branchpoints, as
    long as these leave the specified locations and branchpoints (the XML and the XTA front end differ only there) -/
theorem run_templ_frame (t : ATempl) (hw : TemplWf t) (d : Doc) (p : Nat) (es : List String) {mid : List Call}
    (hmid : run (inTempl (idle d p es) (templ0 t [] [])) mid
      = inTempl (idle d p es) (templ0 t (t.locs.map locOf) (t.bps.map bpName))) :
    run (idle d p es) (t.params.map .declParam ++ [.procBegin t.name] ++ t.decls.map .declItem ++ mid ++ initCallsX t ++
        t.edges.flatMap (edgeCallsX t) ++ [.procEnd])
      = idle { d with templates := d.templates ++ [templOf t] } p es := by
  obtain ⟨r, li, hinit, hli, hfind, hi⟩ := hw.init_loc
  have hhead : run (run (run (idle d p es) (t.params.map .declParam)) [.procBegin t.name]) (t.decls.map .declItem)
      = inTempl (idle d p es) (templ0 t [] []) := by
    rw [run_params]
    exact run_decls (idle d p es) { name := t.name, params := t.params, decls := [], locs := [], bps := [], init := none, edges := [] } t.decls
  have hn : li.effName ∈ t.locs.map (·.effName) := List.mem_map_of_mem hli
  have hk : symKind (templ0 t (t.locs.map locOf) (t.bps.map bpName)) li.effName = some .loc :=
    symKind_loc _ _ ((map_locOf_name t.locs).symm ▸ hn) (fun hmem => (List.nodup_append.mp hw.names).2.2 _ hn _ hmem rfl)
  simp only [run_append]
  rw [hhead, hmid, hi, run_cons _ (.procLocationInit _), run_nil, step_init _ _ _ hk,
    run_edges _ _ t t.edges ⟨map_locOf_name t.locs, rfl⟩ hw.names hw.edges, run_cons, run_nil, step_end]
  simp [templOf, templ0, initOf, hinit, hfind]

theorem run_templ (t : ATempl) (hw : TemplWf t) (d : Doc) (p : Nat) (es : List String) :
    run (idle d p es) (templCallsX t) = idle { d with templates := d.templates ++ [templOf t] } p es := by
  have := run_templ_frame t hw d p es (run_locs_bps _ t hw t.locs rfl hw.locs)
  simpa only [templCallsX, List.append_assoc, List.map_map, Function.comp_def] using this

theorem run_templs (f : ATempl → List Call) (ts : List ATempl)
    (hf : ∀ t ∈ ts, ∀ d p es, run (idle d p es) (f t) = idle { d with templates := d.templates ++ [templOf t] } p es)
    (d : Doc) (p : Nat) (es : List String) :
    run (idle d p es) (ts.flatMap f) = idle { d with templates := d.templates ++ ts.map templOf } p es := by
  induction ts generalizing d with
  | nil => simp [run]
  | cons t r ih =>
    rw [List.flatMap_cons, run_append, hf t (by simp), ih (fun x hx => hf x (by simp [hx]))]
    simp

theorem run_inst (d : Doc) (p : Nat) (es : List String) (i : AInst) :
    ∃ es', run (idle d p es) (instCalls i) = idle (addInst d i) p (es ++ es') := by
  simp only [instCalls, run_append, run_params, run_push (fun k => k), run_cons, run_nil, step, idle, List.nil_append,
    List.append_nil, List.map_id', addInst]
  -- `instantiation_end` takes `i.args.length` entries off the expression stack: all of it, the arguments in reverse
  rw [← List.length_reverse, List.take_length, List.drop_length, List.reverse_reverse, List.length_reverse]
  cases findInst d i.templ with
  | none => exact ⟨["not a template"], by simp [err]⟩
  | some old =>
    by_cases hn : i.args.length = old.unbound
    · exact ⟨[], by simp [hn]⟩
    · exact ⟨["wrong number of arguments"], by simp [hn, err]⟩

theorem run_insts (d : Doc) (p : Nat) (es : List String) (is : List AInst) :
    ∃ es', run (idle d p es) (is.flatMap instCalls) = idle (is.foldl addInst d) p (es ++ es') := by
  induction is generalizing d es with
  | nil => exact ⟨[], by simp [run]⟩
  | cons i r ih =>
    obtain ⟨es1, h1⟩ := run_inst d p es i
    obtain ⟨es2, h2⟩ := ih (addInst d i) (es ++ es1)
    exact ⟨es1 ++ es2, by rw [List.flatMap_cons, run_append, h1, h2, List.foldl_cons, List.append_assoc]⟩

theorem step_process_none (d : Doc) (p : Nat) (es : List String) {n : String} (h : findInst d n = none) :
    step (idle d p es) (.process n) = idle d p (es ++ ["no such process"]) := by
  dsimp only [idle, step]
  rw [h]
  rfl

theorem step_process_some (d : Doc) (p : Nat) (es : List String) {n : String} {i : BInst} (h : findInst d n = some i) :
    step (idle d p es) (.process n)
      = idle { d with processes := d.processes ++ [i], priorities := d.priorities ++ [(n, p)] } p es := by
  dsimp only [idle, step]
  rw [h]

theorem run_procs (d : Doc) (p : Nat) (es : List String) (ps : List (String × Bool)) :
    ∃ es' p', run (idle d p es) (ps.flatMap procCalls) = idle (addProcs d p ps) p' (es ++ es') := by
  induction ps generalizing d p es with
  | nil => exact ⟨[], p, by simp [run, addProcs]⟩
  | cons x r ih =>
    obtain ⟨n, lt⟩ := x
    have hinc : run (idle d p es) (if lt = true then [Call.priorityInc] else []) = idle d (if lt = true then p + 1 else p) es := by
      cases lt <;> rfl
    rw [List.flatMap_cons, run_append, procCalls, run_append, hinc, run_cons, run_nil, addProcs]
    cases hfi : findInst d n with
    | none =>
      obtain ⟨es', p', h⟩ := ih d (if lt = true then p + 1 else p) (es ++ ["no such process"])
      refine ⟨"no such process" :: es', p', ?_⟩
      rw [step_process_none d _ es hfi, h, List.append_assoc]
      rfl
    | some i =>
      obtain ⟨es', p', h⟩ := ih { d with processes := d.processes ++ [i], priorities := d.priorities ++ [(n, if lt = true then p + 1 else p)] }
        (if lt = true then p + 1 else p) es
      exact ⟨es', p', by rw [step_process_some d _ es hfi, h]⟩

theorem run_system (d : Doc) (p : Nat) (es : List String) (is : List AInst) (ps : List (String × Bool)) :
    ∃ es' p', run (idle d p es) (parseCalls .system (.system is ps) ++ [.done]) = idle (addProcs (is.foldl addInst d) p ps) p' es' := by
  obtain ⟨es1, h1⟩ := run_insts d p es is
  obtain ⟨es2, p', h2⟩ := run_procs (is.foldl addInst d) p (es ++ es1) ps
  rw [parseCalls, run_append, run_append, h1]
  cases ps with
  | nil => exact ⟨_, p, rfl⟩
  | cons x r => exact ⟨_, p', by rw [List.isEmpty_cons, if_neg Bool.false_ne_true, run_append, h2]; rfl⟩

theorem run_decls_templs (f : ATempl → List Call) (M : AModel)
    (hf : ∀ t ∈ M.templates, ∀ d p es, run (idle d p es) (f t) = idle { d with templates := d.templates ++ [templOf t] } p es) :
    run {} (M.gdecls.map .declItem ++ M.templates.flatMap f)
      = idle { gdecls := M.gdecls, templates := M.templates.map templOf } 0 [] := by
  rw [run_append, show ({} : BState) = idle {} 0 [] from rfl, run_gdecls, run_templs f _ hf]
  rfl

/-- whatever front end `f` (as in `run_templs`) fired the callbacks of the templates, the system section starts from the
    same state -/
theorem build_front (f : ATempl → List Call) (M : AModel)
    (hf : ∀ t ∈ M.templates, ∀ d p es, run (idle d p es) (f t) = idle { d with templates := d.templates ++ [templOf t] } p es) :
    build (M.gdecls.map .declItem ++ M.templates.flatMap f ++ parseCalls .system (.system M.insts M.procs) ++ [.done])
      = run (idle { gdecls := M.gdecls, templates := M.templates.map templOf } 0 [])
          (parseCalls .system (.system M.insts M.procs) ++ [.done]) := by
  rw [build, List.append_assoc, run_append, run_decls_templs f M hf]

/-- **builder.**  The callbacks of the XML reader for a well-formed model leave the builder idle with the document the
    model denotes (the diagnostics are those of the system section: unknown templates or processes, wrong arities). -/
theorem build_xmlCalls (M : AModel) (hw : ∀ t ∈ M.templates, TemplWf t) :
    ∃ es p, build (xmlCalls M) = idle (docOf M) p es := by
  obtain ⟨es, p, h⟩ := run_system { gdecls := M.gdecls, templates := M.templates.map templOf } 0 [] M.insts M.procs
  exact ⟨es, p, by rw [xmlCalls, build_front templCallsX M fun t ht => run_templ t (hw t ht)]; exact h⟩

theorem templOf_edges_length (t : ATempl) (hw : TemplWf t) : (templOf t).edges.length = t.edges.length := by
  refine List.filterMap_length_eq_length.mpr fun e he => ?_
  obtain ⟨a, ha⟩ := (ref_resolves t (hw.edges e he).1).2
  obtain ⟨c, hc⟩ := (ref_resolves t (hw.edges e he).2).2
  simp [edgeOf, ha, hc]

theorem addInst_static (d : Doc) (i : AInst) : (addInst d i).gdecls = d.gdecls ∧ (addInst d i).templates = d.templates := by
  unfold addInst
  split
  · split <;> exact ⟨rfl, rfl⟩
  · exact ⟨rfl, rfl⟩

theorem addProcs_static (d : Doc) (n : Nat) (ps : List (String × Bool)) :
    (addProcs d n ps).gdecls = d.gdecls ∧ (addProcs d n ps).templates = d.templates := by
  induction ps generalizing d n with
  | nil => exact ⟨rfl, rfl⟩
  | cons x r ih =>
    unfold addProcs
    cases findInst d x.1 with
    | none => exact ih _ _
    | some i => exact ih _ _

theorem docOf_static (M : AModel) : (docOf M).gdecls = M.gdecls ∧ (docOf M).templates = M.templates.map templOf := by
  have hfold : ∀ (is : List AInst) (d : Doc), (is.foldl addInst d).gdecls = d.gdecls ∧ (is.foldl addInst d).templates = d.templates := by
    intro is
    induction is with
    | nil => exact fun d => ⟨rfl, rfl⟩
    | cons i r ih => exact fun d => ⟨(ih _).1.trans (addInst_static d i).1, (ih _).2.trans (addInst_static d i).2⟩
  exact ⟨(addProcs_static _ _ _).1.trans (hfold _ _).1, (addProcs_static _ _ _).2.trans (hfold _ _).2⟩

theorem bindFirst_eq (args : List Key) (bs : List (Param × Option Key)) :
    bindFirst args bs = List.zipWith (fun a b => (b.1, some a)) args bs ++ bs.drop args.length := by
  induction args generalizing bs with
  | nil => rfl
  | cons a r ih =>
    cases bs with
    | nil => rfl
    | cons b bs => exact congrArg ((b.1, some a) :: ·) (ih bs)

theorem labelsOrdered_of_nodup (ls : List (LocKind × Key)) (hnd : (ls.map (·.1)).Nodup)
    (hs : ls.map (·.1) ≠ [.exponentialrate, .invariant]) : labelsOrdered ls = true := by
  match ls, hnd, hs with
  | [], _, _ => rfl
  | [_], _, _ => rfl
  | [(k1, _), (k2, _)], hnd, hs =>
    cases k1 <;> cases k2
    · simp at hnd
    · rfl
    · exact absurd rfl hs
    · simp at hnd
  | (k1, _) :: (k2, _) :: (k3, _) :: _, hnd, _ =>
    -- three labels: two of them have the same kind
    have : k1 = k2 ∨ k1 = k3 ∨ k2 = k3 := by cases k1 <;> cases k2 <;> cases k3 <;> simp
    simp only [List.map_cons, List.nodup_cons, List.mem_cons, not_or] at hnd
    rcases this with h | h | h
    · exact absurd h hnd.1.1
    · exact absurd h hnd.1.2.1
    · exact absurd h hnd.2.1.1

theorem ALoc.wf_of_wf0 (l : ALoc) (h0 : l.wf0 = true) (hs : l.shapes = []) : l.wf = true := by
  simp only [ALoc.wf0, Bool.and_eq_true, decide_eq_true_eq] at h0
  have hns : l.labels.map (·.1) ≠ [.exponentialrate, .invariant] := fun heq => by simp [ALoc.shapes, heq] at hs
  simp [ALoc.wf, labelsOrdered_of_nodup l.labels h0.1 hns, h0.2]

theorem AModel.wf_of_wf0 (M : AModel) (h0 : M.wf0 = true) (hs : M.exceptionShapes = []) : M.wf = true := by
  simp only [AModel.wf, AModel.wf0, List.all_eq_true] at *
  intro t ht
  have h := h0 t ht
  simp only [ATempl.wf0, Bool.and_eq_true, List.all_eq_true] at h
  obtain ⟨⟨⟨⟨⟨h1, h2⟩, h3⟩, h4⟩, h5⟩, h6⟩ := h
  simp only [AModel.exceptionShapes, List.flatMap_eq_nil_iff] at hs
  have hl : ∀ l ∈ t.locs, l.wf = true := fun l hl => l.wf_of_wf0 (h4 l hl) (hs t ht l hl)
  simp only [ATempl.wf, Bool.and_eq_true, List.all_eq_true]
  exact ⟨⟨⟨⟨⟨h1, h2⟩, h3⟩, hl⟩, h5⟩, h6⟩

end UtapModel.AM
