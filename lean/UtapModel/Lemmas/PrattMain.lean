/- The round-trip theorem of the Pratt parser model: every admissible rendering `R` of a tree parses back to it. -/
import UtapModel.Lemmas.PrattEq
import UtapModel.Lemmas.ListFacts

namespace UtapModel.Pratt

variable (T : Tbl) (mt : Nat)

/-- `R b ctx e ts`: `ts` is an admissible rendering of `e` in a context that requires level ≥ `ctx`
(`b = false`), or of the argument list `e` (`b = true`).  Parentheses are *allowed* everywhere and *required*
exactly where the table demands them, so the minimal rendering, the fully parenthesised one and everything in
between are instances. -/
inductive R : Bool → Nat → Expr → List Tok → Prop
  | paren {ctx e ts} : R false 0 e ts → R false ctx e ([.lp] ++ ts ++ [.rp])
  | atom {ctx a} : a ≠ .intMin → R false ctx (.atom a) [.atom a]
  | intMin {ctx} : T.isPre mt = true → T.isMinus mt = true → R false ctx (.atom .intMin) [.sym mt, .posNegMax]
  | pre {ctx t x tx} : T.isPre t = true → T.prePlus t = false → ctx ≤ T.pp t →
      R false (T.mn (T.pp t)) x tx → R false ctx (.pre t x) (.sym t :: tx)
  | quant {ctx k id ty x tx} : ctx ≤ T.quantL k →
      R false (T.mn (T.quantL k)) x tx → R false ctx (.quant k id ty x) (.quant k id ty :: tx)
  | post {ctx t x tx} : T.isPost t = true → T.isBin t = false → ctx ≤ T.sp t →
      R false (T.lctx (T.sp t)) x tx → R false ctx (.post t x) (tx ++ [.sym t])
  | dot {ctx n x tx} : ctx ≤ T.topL → R false (T.lctx T.topL) x tx → R false ctx (.dot n x) (tx ++ [.dot n])
  | dotLoc {ctx x tx} : ctx ≤ T.topL → R false (T.lctx T.topL) x tx → R false ctx (.dotLoc x) (tx ++ [.dotLoc])
  | bin {ctx t l r tl tr} : T.isBin t = true → T.isImply t = false → T.isPost t = false → ctx ≤ T.bp t →
      R false (T.lctx (T.bp t)) l tl → R false (T.mn (T.bp t)) r tr → R false ctx (.bin t l r) (tl ++ [.sym t] ++ tr)
  | tern {ctx c a b tc ta tb} : ctx ≤ T.ternL →
      R false (T.lctx T.questL) c tc → R false 0 a ta → R false (T.mn T.ternL) b tb →
      R false ctx (.tern c a b) (tc ++ [.quest] ++ ta ++ [.colon] ++ tb)
  | index {ctx a i ta ti} : ctx ≤ T.topL → R false (T.lctx T.topL) a ta → R false 0 i ti →
      R false ctx (.index a i) (ta ++ [.lb] ++ ti ++ [.rb])
  | fn1 {ctx k a ta} : R false 0 a ta → R false ctx (.fn1 k a) ([.fn k 1, .lp] ++ ta ++ [.rp])
  | fn2 {ctx k a b ta tb} : R false 0 a ta → R false 0 b tb →
      R false ctx (.fn2 k a b) ([.fn k 2, .lp] ++ ta ++ [.comma] ++ tb ++ [.rp])
  | fn3 {ctx k a b c ta tb tc} : R false 0 a ta → R false 0 b tb → R false 0 c tc →
      R false ctx (.fn3 k a b c) ([.fn k 3, .lp] ++ ta ++ [.comma] ++ tb ++ [.comma] ++ tc ++ [.rp])
  | call {ctx f args tf ta} : ctx ≤ T.topL → R false (T.lctx T.topL) f tf → R true 0 args ta →
      R false ctx (.call f args) (tf ++ [.lp] ++ ta ++ [.rp])
  | anil : R true 0 .anil []
  | aone {x tx} : R false 0 x tx → R true 0 (.acons x .anil) tx
  | acons {x rest tx tr} : R false 0 x tx → R true 0 rest tr → rest ≠ .anil →
      R true 0 (.acons x rest) (tx ++ [.comma] ++ tr)

/-- no rule of any level ≥ `ctx` would let its operand swallow the head of `rest` -/
def Safe (ctx : Nat) (rest : List Tok) : Prop := ∀ p, ctx ≤ p → contAt T (T.mn p) rest = false

theorem le_mn (p : Nat) : p ≤ T.mn p := by unfold Tbl.mn; split <;> omega
theorem le_lctx (p : Nat) : p ≤ T.lctx p := by unfold Tbl.lctx; split <;> omega

/-- the arithmetic heart: behind a left operand printed bare at `lctx p`, an operator of level `p` is not swallowed -/
theorem lt_mn_of_lctx_le {p p' : Nat} (h : T.lctx p ≤ p') : p < T.mn p' := by
  unfold Tbl.lctx at h; unfold Tbl.mn
  by_cases hp : T.ra p
  · simp only [hp, if_true] at h; split <;> omega
  · simp only [hp, Bool.false_eq_true, if_false] at h
    by_cases he : p' = p
    · subst he; simp [hp]
    · split <;> omega

theorem safe_mono {c c' : Nat} {rest} (h : Safe T c rest) (hc : c ≤ c') : Safe T c' rest :=
  fun p hp => h p (Nat.le_trans hc hp)

theorem safe_of_contAt {c : Nat} {rest} (h : contAt T c rest = false) : Safe T c rest :=
  fun p hp => contAt_mono T h (Nat.le_trans hp (le_mn T p))

/-- what may follow a left operand of a rule of level `p`: anything the loop above level `p` leaves alone -/
theorem safe_lctx {p : Nat} {rest} (h : contAt T (p + 1) rest = false) : Safe T (T.lctx p) rest :=
  fun _ hp => contAt_mono T h (lt_mn_of_lctx_le T hp)

theorem safe_nil (c) : Safe T c [] := fun _ _ => rfl
theorem safe_rp (c r) : Safe T c (.rp :: r) := fun _ _ => rfl
theorem safe_rb (c r) : Safe T c (.rb :: r) := fun _ _ => rfl
theorem safe_comma (c r) : Safe T c (.comma :: r) := fun _ _ => rfl
theorem safe_colon (c r) : Safe T c (.colon :: r) := fun _ _ => rfl

theorem R_start {b ctx e ts} (h : R T mt b ctx e ts) : b = false → ∀ rest, OpStart T (ts ++ rest) := by
  induction h with
  | paren => exact fun _ _ => .lp
  | atom => exact fun _ _ => .atom
  | intMin h1 | pre h1 => exact fun _ _ => .sym h1
  | quant => exact fun _ _ => .quant
  | fn1 | fn2 | fn3 => exact fun _ _ => .fn
  | post _ _ _ _ ih | dot _ _ ih | dotLoc _ _ ih | bin _ _ _ _ _ _ ih _ | tern _ _ _ _ ih _ _ | index _ _ _ ih _
  | call _ _ _ ih _ =>
    intro _ rest
    simp only [List.append_assoc]
    exact ih rfl _
  | anil | aone | acons => exact fun h => nomatch h

/-- separator in front of a non-empty argument tail -/
def sep : Expr → List Tok
  | .anil => []
  | _ => [.comma]

theorem sep_acons (x r : Expr) : sep (.acons x r) = [.comma] := rfl
theorem sep_of_ne {e : Expr} (h : e ≠ .anil) : sep e = [.comma] := by
  cases e <;> first | rfl | exact absurd rfl h

/-- what `main` establishes for a rendering, by mode -/
def Goal (b : Bool) (ctx : Nat) (e : Expr) (ts : List Tok) : Prop :=
  match b with
  | false => ∀ q rest res, q ≤ ctx → Safe T ctx rest →
      (∀ g, rest.length + 1 ≤ g → loop T g q e rest = some res) →
      ∀ f, (ts ++ rest).length + 1 ≤ f → parseE T f q (ts ++ rest) = some res
  | true => ∀ rest f, (sep e ++ ts ++ .rp :: rest).length + 1 ≤ f → parseTail T f (sep e ++ ts ++ .rp :: rest) = some (e, rest)

/-! Fuel: every call of the parser is made with more fuel than its input has tokens.  Each call passes one unit less to the calls
it makes, on an input that is shorter by at least one token. -/

theorem fuel_succ {t : Tok} {s : List Tok} {f : Nat} (h : (t :: s).length + 1 ≤ f) : ∃ f', f = f' + 1 ∧ s.length + 1 ≤ f' := by
  obtain ⟨f', rfl⟩ := succ_of_le h
  exact ⟨f', rfl, Nat.le_of_succ_le_succ h⟩

theorem fuel_tail {t : Tok} {s : List Tok} {f : Nat} (h : (t :: s).length + 1 ≤ f) : s.length + 1 ≤ f :=
  Nat.le_trans (Nat.le_succ _) h

theorem fuel_drop {a s : List Tok} {f : Nat} (h : (a ++ s).length + 1 ≤ f) : s.length + 1 ≤ f := by
  simp only [List.length_append] at h; omega

variable {T}

theorem Goal.operand {c x tx s} (ih : Goal T false c x tx) (h : contAt T c s = false) :
    ∀ f, (tx ++ s).length + 1 ≤ f → parseE T f c (tx ++ s) = some (x, s) :=
  ih c s (x, s) (Nat.le_refl c) (safe_of_contAt T h) fun g hg => by
    obtain ⟨g, rfl⟩ := succ_of_le hg
    exact loop_stop T g c x s h

/-- a left operand of a rule of level `p`, in front of a token `o` that the loop takes at level `p` and no higher: the parse goes
on as the loop does with the operand finished -/
theorem Goal.left {p q x tx o tail res} (ih : Goal T false (T.lctx p) x tx) (hq : q ≤ p)
    (ho : contAt T (p + 1) (o :: tail) = false)
    (hk : ∀ g, tail.length + 1 ≤ g → loop T (g + 1) q x (o :: tail) = some res) :
    ∀ f, (tx ++ o :: tail).length + 1 ≤ f → parseE T f q (tx ++ o :: tail) = some res := by
  refine ih q _ res (Nat.le_trans hq (le_lctx T p)) (safe_lctx T ho) fun g hg => ?_
  obtain ⟨g, rfl, hg'⟩ := fuel_succ hg
  exact hk g hg'

variable (T)

/-- the argument list behind `(`, read by the `(`-branch of `loop`: the first argument is read as if a comma preceded it -/
theorem args_after_lp {args ta} (h : R T mt true 0 args ta) (ih : Goal T true 0 args ta) (rest f)
    (hf : (ta ++ .rp :: rest).length + 1 ≤ f) : argsAfterLp T f (ta ++ .rp :: rest) = some (args, rest) := by
  cases h with
  | anil => exact argsAfterLp_rp T f rest
  | aone hx =>
    rw [argsAfterLp_expr T f _ (R_start T mt hx rfl _), ← parseTail_comma]
    exact ih rest (f + 1) (Nat.succ_le_succ hf)
  | acons hx _ _ =>
    have := ih rest (f + 1)
    simp only [sep_acons, List.append_assoc, List.cons_append, List.nil_append] at hf this ⊢
    rw [argsAfterLp_expr T f _ (R_start T mt hx rfl _), ← parseTail_comma]
    exact this (Nat.succ_le_succ hf)

/-- **Round trip, continuation form.**  If the continuation loop, started with the finished tree `e` in front of
`rest`, yields `res`, then parsing any admissible rendering of `e` followed by `rest` yields `res`. -/
theorem main (hT : T.ternL ≤ T.questL) {b ctx e ts} (h : R T mt b ctx e ts) : Goal T b ctx e ts := by
  induction h with
  | paren _ ih =>
    intro q rest res _ _ hl f hf
    simp only [List.append_assoc, List.cons_append, List.nil_append] at hf ⊢
    obtain ⟨f, rfl, h1⟩ := fuel_succ hf
    simp only [parseE_lp, ih.operand (s := .rp :: rest) rfl f h1]
    exact hl f (fuel_tail (fuel_drop h1))
  | atom =>
    intro q rest res _ _ hl f hf
    obtain ⟨f, rfl, h1⟩ := fuel_succ hf
    exact hl f h1
  | intMin h1 h2 =>
    intro q rest res _ _ hl f hf
    obtain ⟨f, rfl, h3⟩ := fuel_succ hf
    simp only [List.cons_append, List.nil_append, parseE_intMin, h1, h2, Bool.and_self, if_true]
    exact hl f (fuel_tail h3)
  | pre h1 h2 hc hx ih =>
    intro q rest res _ hs hl f hf
    obtain ⟨f, rfl, h3⟩ := fuel_succ hf
    simp only [List.cons_append, parseE_sym T f q _ _ (R_start T mt hx rfl rest), h1, if_true,
      ih.operand (hs _ hc) f h3, h2, Bool.false_eq_true, if_false]
    exact hl f (fuel_drop h3)
  | quant hc _ ih =>
    intro q rest res _ hs hl f hf
    obtain ⟨f, rfl, h1⟩ := fuel_succ hf
    simp only [List.cons_append, parseE_quant, ih.operand (hs _ hc) f h1]
    exact hl f (fuel_drop h1)
  | post h1 h2 hc _ ih =>
    intro q rest res hq _ hl f hf
    have hq' := Nat.le_trans hq hc
    simp only [List.append_assoc, List.cons_append, List.nil_append] at hf ⊢
    refine ih.left hq' (by simp [contAt, h2]) (fun g hg => ?_) f hf
    simp only [loop_sym, h2, Bool.false_and, Bool.false_eq_true, if_false, h1, Bool.true_and, decide_eq_true_eq, hq', if_true]
    exact hl g hg
  | dot hc _ ih | dotLoc hc _ ih =>
    intro q rest res hq _ hl f hf
    have hq' := Nat.le_trans hq hc
    simp only [List.append_assoc, List.cons_append, List.nil_append] at hf ⊢
    refine ih.left hq' (by simp [contAt]) (fun g hg => ?_) f hf
    simp only [loop_dot, loop_dotLoc, hq', if_true]
    exact hl g hg
  | bin h1 h2 h3 hc _ _ ihl ihr =>
    intro q rest res hq hs hl f hf
    have hq' := Nat.le_trans hq hc
    simp only [List.append_assoc, List.cons_append, List.nil_append] at hf ⊢
    refine ihl.left hq' (by simp [contAt, h3]) (fun g hg => ?_) f hf
    simp only [loop_sym, h1, Bool.true_and, decide_eq_true_eq, hq', if_true, ihr.operand (hs _ hc) g hg, Tbl.mkBin, h2,
      Bool.false_eq_true, if_false]
    exact hl g (fuel_drop hg)
  | tern hc _ _ _ ihc iha ihb =>
    intro q rest res hq hs hl f hf
    have hq' := Nat.le_trans hq (Nat.le_trans hc hT)
    simp only [List.append_assoc, List.cons_append, List.nil_append] at hf ⊢
    refine ihc.left hq' (by simp [contAt]) (fun g hg => ?_) f hf
    have hg' := fuel_tail (fuel_drop hg)
    simp only [loop_quest, hq', if_true, iha.operand (s := .colon :: _) rfl g hg, ihb.operand (hs _ hc) g hg']
    exact hl g (fuel_drop hg')
  | index hc _ _ iha ihi =>
    intro q rest res hq _ hl f hf
    have hq' := Nat.le_trans hq hc
    simp only [List.append_assoc, List.cons_append, List.nil_append] at hf ⊢
    refine iha.left hq' (by simp [contAt]) (fun g hg => ?_) f hf
    simp only [loop_lb, hq', if_true, ihi.operand (s := .rb :: rest) rfl g hg]
    exact hl g (fuel_tail (fuel_drop hg))
  | fn1 _ iha =>
    intro q rest res _ _ hl f hf
    simp only [List.append_assoc, List.cons_append, List.nil_append] at hf ⊢
    obtain ⟨f, rfl, h0⟩ := fuel_succ hf
    have h1 := fuel_tail h0
    simp only [parseE_fn1, iha.operand (s := .rp :: rest) rfl f h1]
    exact hl f (fuel_tail (fuel_drop h1))
  | fn2 _ _ iha ihb =>
    intro q rest res _ _ hl f hf
    simp only [List.append_assoc, List.cons_append, List.nil_append] at hf ⊢
    obtain ⟨f, rfl, h0⟩ := fuel_succ hf
    have h1 := fuel_tail h0
    have h2 := fuel_tail (fuel_drop h1)
    simp only [parseE_fn2, iha.operand (s := .comma :: _) rfl f h1, ihb.operand (s := .rp :: rest) rfl f h2]
    exact hl f (fuel_tail (fuel_drop h2))
  | fn3 _ _ _ iha ihb ihc =>
    intro q rest res _ _ hl f hf
    simp only [List.append_assoc, List.cons_append, List.nil_append] at hf ⊢
    obtain ⟨f, rfl, h0⟩ := fuel_succ hf
    have h1 := fuel_tail h0
    have h2 := fuel_tail (fuel_drop h1)
    have h3 := fuel_tail (fuel_drop h2)
    simp only [parseE_fn3, iha.operand (s := .comma :: _) rfl f h1,
      ihb.operand (s := .comma :: _) rfl f h2, ihc.operand (s := .rp :: rest) rfl f h3]
    exact hl f (fuel_tail (fuel_drop h3))
  | call hc _ ha ihf iha =>
    intro q rest res hq _ hl f hf
    have hq' := Nat.le_trans hq hc
    simp only [List.append_assoc, List.cons_append, List.nil_append] at hf ⊢
    refine ihf.left hq' (by simp [contAt]) (fun g hg => ?_) f hf
    simp only [loop_lp, hq', if_true, args_after_lp T mt ha iha rest g hg]
    exact hl g (fuel_tail (fuel_drop hg))
  | anil =>
    intro rest f hf
    obtain ⟨f, rfl, -⟩ := fuel_succ hf
    rfl
  | aone _ ihx =>
    intro rest f hf
    obtain ⟨f, rfl, h1⟩ := fuel_succ hf
    obtain ⟨f, rfl, -⟩ := fuel_succ (fuel_drop h1)
    simp only [sep_acons, List.cons_append, List.nil_append, parseTail_comma, ihx.operand (s := .rp :: rest) rfl _ h1, parseTail_rp]
  | acons _ _ hne ihx ihr =>
    intro rest f hf
    have htl := ihr rest
    simp only [sep_of_ne hne, sep_acons, List.append_assoc, List.cons_append, List.nil_append] at hf htl ⊢
    obtain ⟨f, rfl, h1⟩ := fuel_succ hf
    simp only [parseTail_comma, ihx.operand (s := .comma :: _) rfl f h1, htl f (fuel_drop h1)]

theorem parse_R (hT : T.ternL ≤ T.questL) {c e ts rest} (hR : R T mt false c e ts) (h : contAt T c rest = false) :
    ∀ f, (ts ++ rest).length + 1 ≤ f → parseE T f c (ts ++ rest) = some (e, rest) :=
  (main T mt hT hR).operand h

theorem parse_R_end (hT : T.ternL ≤ T.questL) {c e ts} (hR : R T mt false c e ts) :
    ∀ f, ts.length + 1 ≤ f → parseE T f c ts = some (e, []) := by
  simpa only [List.append_nil] using parse_R T mt hT hR (rest := []) rfl

end UtapModel.Pratt
