/- Facts about `List.modify`, `++` and fuel that mention nothing of the models and that lemma files of more than one
   property use; what a single file needs stands in that file.  Core Lean only. -/
namespace UtapModel

/-- fuel that exceeds something is a successor: the recursive functions with fuel unfold by one step -/
theorem succ_of_le {n f : Nat} (h : n + 1 ≤ f) : ∃ f', f = f' + 1 := Nat.exists_eq_add_one.mpr (Nat.zero_lt_of_lt h)

theorem lt_length_append {α} {l l' : List α} {a : Nat} (h : a < l.length) : a < (l ++ l').length := by
  rw [List.length_append]; exact Nat.lt_add_right _ h

theorem lt_length_modify {α} {l : List α} {i a : Nat} {g : α → α} (h : a < l.length) : a < (l.modify i g).length := by
  rw [List.length_modify]; exact h

theorem getElem?_modify_some {α} {l : List α} {i j : Nat} {g : α → α} {a' : α} (h : (l.modify i g)[j]? = some a') :
    ∃ a, l[j]? = some a ∧ a' = if i = j then g a else a := by
  rw [List.getElem?_modify] at h
  obtain ⟨a, ha, rfl⟩ := Option.map_eq_some_iff.mp h
  exact ⟨a, ha, rfl⟩

theorem getElem?_modify_cases {α} {l : List α} {i j : Nat} {g : α → α} {a' : α} (h : (l.modify i g)[j]? = some a') :
    l[j]? = some a' ∨ (j = i ∧ ∃ a, l[i]? = some a ∧ a' = g a) := by
  obtain ⟨a, ha, rfl⟩ := getElem?_modify_some h
  split
  · rename_i he; subst he; exact .inr ⟨rfl, a, ha, rfl⟩
  · exact .inl ha

end UtapModel
