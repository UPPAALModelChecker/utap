/- The product of two intervals lies between its four corner products (`mul_corners`): with one factor fixed the product
   is monotone or antitone in the other, by the sign of the fixed one (`mul_between`).  Core Lean only. -/

namespace UtapModel.C18

theorem between_self {e x : Int} : e ≤ x ∧ x ≤ e ↔ x = e :=
  and_comm.trans Int.le_antisymm_iff.symm

theorem mul_between {l h x : Int} (e : Int) (h1 : l ≤ x) (h2 : x ≤ h) :
    min (l * e) (h * e) ≤ x * e ∧ x * e ≤ max (l * e) (h * e) :=
  (Int.le_total 0 e).elim
    (fun he => ⟨Int.le_trans (Int.min_le_left ..) (Int.mul_le_mul_of_nonneg_right h1 he),
                Int.le_trans (Int.mul_le_mul_of_nonneg_right h2 he) (Int.le_max_right ..)⟩)
    (fun he => ⟨Int.le_trans (Int.min_le_right ..) (Int.mul_le_mul_of_nonpos_right h2 he),
                Int.le_trans (Int.mul_le_mul_of_nonpos_right h1 he) (Int.le_max_left ..)⟩)

theorem mul_corners {a₁ a₂ b₁ b₂ x y : Int} (hx1 : a₁ ≤ x) (hx2 : x ≤ a₂) (hy1 : b₁ ≤ y) (hy2 : y ≤ b₂) :
    min (min (a₁ * b₁) (a₁ * b₂)) (min (a₂ * b₁) (a₂ * b₂)) ≤ x * y ∧
    x * y ≤ max (max (a₁ * b₁) (a₁ * b₂)) (max (a₂ * b₁) (a₂ * b₂)) := by
  -- `x * y` lies between `a₁ * y` and `a₂ * y` (fix `y`), and each of these between two corner products (fix `aᵢ`)
  have hx := mul_between y hx1 hx2
  have h1 := mul_between a₁ hy1 hy2
  have h2 := mul_between a₂ hy1 hy2
  rw [Int.mul_comm b₁, Int.mul_comm b₂, Int.mul_comm y] at h1 h2
  constructor
  · refine Int.le_trans (Int.le_min.2 ⟨?_, ?_⟩) hx.1
    · exact Int.le_trans (Int.min_le_left ..) h1.1
    · exact Int.le_trans (Int.min_le_right ..) h2.1
  · refine Int.le_trans hx.2 (Int.max_le.2 ⟨?_, ?_⟩)
    · exact Int.le_trans h1.2 (Int.le_max_left ..)
    · exact Int.le_trans h2.2 (Int.le_max_right ..)

end UtapModel.C18
