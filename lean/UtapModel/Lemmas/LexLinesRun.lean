/- The invariant of the lexer's line accounting, `Inv`: the tracker counts the newlines consumed so far and the last
   entry of the line table is the start of the current line.  Every honest lexeme keeps it (`Inv.step`), and under it
   a position on the current line resolves to the reference line and column (`Inv.resolve`).  The state in which the
   parser starts a block satisfies it (`C06.blockStart_inv`, in `Props/C06`). -/
import UtapModel.Model.LexLines
import UtapModel.Lemmas.PosFind

namespace UtapModel.LexLines
open UtapModel.Pos

def noNl (u : List Char) : Prop := ∀ c ∈ u, c ≠ '\n'

/-- A lexeme is *honest* when the number it passes to `tracker.newline` is the number of newline characters it
    contains, and a lexeme that contains newlines ends with one. -/
def Honest (lx : Lexeme) : Prop :=
  lx.nl = countNl lx.chars ∧ (lx.nl ≠ 0 → ∃ w, lx.chars = w ++ ['\n'])

theorem noNl_nil : noNl [] := List.forall_mem_nil _

theorem noNl_cons {c : Char} {l : List Char} : noNl (c :: l) ↔ c ≠ '\n' ∧ noNl l := List.forall_mem_cons

theorem noNl_append {a b : List Char} : noNl (a ++ b) ↔ noNl a ∧ noNl b := List.forall_mem_append

theorem countNl_append (a b : List Char) : countNl (a ++ b) = countNl a + countNl b := by
  simp [countNl, List.filter_append]

theorem countNl_le (t : List Char) : countNl t ≤ t.length := List.length_filter_le _ _

theorem countNl_eq_zero {u : List Char} : countNl u = 0 ↔ noNl u := by
  simp [countNl, noNl]

theorem honest_of_noNl {chars : List Char} (h : noNl chars) (r : Rule) : Honest ⟨chars, 0, r⟩ :=
  ⟨(countNl_eq_zero.mpr h).symm, fun hne => absurd rfl hne⟩

theorem honest_of_ends {w : List Char} (h : noNl w) (r : Rule) : Honest ⟨w ++ ['\n'], 1, r⟩ :=
  ⟨by rw [countNl_append, countNl_eq_zero.mpr h]; rfl, fun _ => ⟨w, rfl⟩⟩

theorem colOf_append_noNl (a u : List Char) (h : noNl u) : colOf (a ++ u) = colOf a + u.length := by
  simp only [colOf, List.reverse_append]
  rw [List.takeWhile_append_of_pos]
  · simp [Nat.add_comm]
  · intro c hc
    simpa using h c (List.mem_reverse.mp hc)

theorem colOf_append_nl (a w : List Char) : colOf (a ++ (w ++ ['\n'])) = 0 := by
  simp [colOf, List.reverse_append]

theorem colOf_le (t : List Char) : colOf t ≤ t.length := by
  simp only [colOf]
  have := (List.takeWhile_sublist (fun c => c != '\n') (l := t.reverse)).length_le
  simpa using this

theorem flat_cons (lx : Lexeme) (ls : List Lexeme) : flat (lx :: ls) = lx.chars ++ flat ls := by
  simp [flat]

theorem flat_nil : flat [] = [] := rfl

theorem flat_append (a b : List Lexeme) : flat (a ++ b) = flat a ++ flat b := by
  simp [flat]

theorem Honest.length_lt {lx : Lexeme} (hh : Honest lx) (hnl : lx.nl ≠ 0) {u v : List Char} (hchars : lx.chars = u ++ v)
    (hu : noNl u) : u.length < lx.chars.length := by
  have hv : countNl v ≠ 0 := by
    rw [hh.1, hchars, countNl_append, countNl_eq_zero.mpr hu, Nat.zero_add] at hnl; exact hnl
  have := countNl_le v
  rw [hchars, List.length_append]
  omega

theorem runLexemes_append {s s1 : St} {a : List Lexeme} (b : List Lexeme) (h : runLexemes s a = .ok s1) :
    runLexemes s (a ++ b) = runLexemes s1 b := by
  induction a generalizing s with
  | nil => rw [Except.ok.inj h]; rfl
  | cons lx a ih =>
    cases hs : s.lexeme lx.chars.length lx.nl with
    | ok s' => simp only [runLexemes, hs, List.cons_append] at h ⊢; exact ih h
    | error e => simp [runLexemes, hs] at h

/-- the state after lexing the prefix `pre` of a block that started at absolute position `p0 + 1` -/
structure Inv (p0 : Nat) (path : String) (pre : List Char) (s : St) : Prop where
  pos : s.tr.position = p0 + 1 + pre.length
  line : s.tr.line = 1 + countNl pre
  hpath : s.tr.path = path
  mono : Monotone s.idx
  last : ∃ l, s.idx.getLast? = some l ∧ l.path = path ∧ l.line = 1 + countNl pre ∧
    l.position + colOf pre = p0 + 1 + pre.length

variable {p0 : Nat} {path : String} {pre : List Char} {s : St}

/-- Stated for a table that has grown by `more` beyond the position: diagnostics are resolved in the table of the whole run. -/
theorem Inv.resolve (h : Inv p0 path pre s) {u : List Char} (hu : noNl u) {more : Index} (hm : Monotone (s.idx ++ more))
    (hgt : ∀ e ∈ more, p0 + 1 + pre.length + u.length < e.position) (hW : p0 + 1 + pre.length + u.length < W) :
    resolve (s.idx ++ more) (p0 + 1 + pre.length + u.length) = .ok ⟨path, refLine (pre ++ u), refCol (pre ++ u)⟩ := by
  obtain ⟨l, hl, hp, hln, hpos⟩ := h.last
  rw [resolve_append_of_getLast hm hl (by omega) hgt hW, refLine, refCol, countNl_append, countNl_eq_zero.mpr hu,
    colOf_append_noNl pre u hu, hp, hln]
  congr 2
  omega

/-- Last part: an entry is added only after a lexeme that reports newlines, beyond every newline-free prefix `u` of it,
    so the positions inside the lexeme up to its first newline still resolve on the old line. -/
theorem Inv.step (h : Inv p0 path pre s) (lx : Lexeme) (hh : Honest lx)
    (hfit : p0 + 1 + pre.length + lx.chars.length < W) :
    ∃ s1 more, s.lexeme lx.chars.length lx.nl = .ok s1 ∧ Inv p0 path (pre ++ lx.chars) s1 ∧ s1.idx = s.idx ++ more ∧
      ∀ e ∈ more, ∀ u v, lx.chars = u ++ v → noNl u → p0 + 1 + pre.length + u.length < e.position := by
  obtain ⟨l, hl, hp, hln, hpos⟩ := h.last
  have hmod : (s.tr.position + lx.chars.length) % W = p0 + 1 + pre.length + lx.chars.length := by
    rw [h.pos]; exact Nat.mod_eq_of_lt hfit
  by_cases hnl : lx.nl = 0
  · have hc : countNl lx.chars = 0 := by rw [← hh.1]; exact hnl
    have hcount : 1 + countNl (pre ++ lx.chars) = 1 + countNl pre := by rw [countNl_append, hc]; rfl
    refine ⟨{ s with tr := s.tr.increment lx.chars.length }, [], ?_, ?_, (List.append_nil _).symm, List.forall_mem_nil _⟩
    · simp [St.lexeme, hnl]
    · refine ⟨?_, ?_, h.hpath, h.mono, ⟨l, hl, hp, ?_, ?_⟩⟩
      · rw [List.length_append, ← Nat.add_assoc]
        exact hmod
      · rw [hcount]
        exact h.line
      · rw [hcount]
        exact hln
      · rw [colOf_append_noNl pre lx.chars (countNl_eq_zero.mp hc), List.length_append, ← Nat.add_assoc, hpos, Nat.add_assoc]
  · -- the lexeme ends with a newline; one entry is added after it, on the new line at column 0
    obtain ⟨w, hw⟩ := hh.2 hnl
    have hline : (s.tr.line + lx.nl) % W = 1 + countNl (pre ++ lx.chars) := by
      have := countNl_le (pre ++ lx.chars)
      rw [List.length_append] at this
      rw [h.line, hh.1, Nat.add_assoc, ← countNl_append, Nat.mod_eq_of_lt (by omega)]
    let e : Line := ⟨p0 + 1 + pre.length + lx.chars.length, (s.tr.offset + lx.chars.length) % W,
      1 + countNl (pre ++ lx.chars), path⟩
    have htr : ((s.tr.increment lx.chars.length).newline lx.nl).entry = e := by
      simp only [e, Tracker.entry, Tracker.newline, Tracker.increment, hmod, hline, h.hpath]
    have hle : l.position ≤ e.position := by simp only [e]; omega
    refine ⟨{ tr := (s.tr.increment lx.chars.length).newline lx.nl, idx := s.idx ++ [e] }, [e], ?_, ?_, rfl, ?_⟩
    · simp only [St.lexeme, hnl, ↓reduceIte, htr, Index.add, hl, Nat.not_lt.mpr hle]
    · refine ⟨?_, hline, h.hpath, Monotone.append_one e h.mono hl hle, ⟨e, List.getLast?_concat .., rfl, rfl, ?_⟩⟩
      · rw [List.length_append, ← Nat.add_assoc]
        exact hmod
      · rw [hw, colOf_append_nl, ← hw, List.length_append]
        exact Nat.add_assoc (p0 + 1) pre.length lx.chars.length
    · intro e' he' u v hchars hu
      rw [List.mem_singleton.mp he']
      exact Nat.add_lt_add_left (hh.length_lt hnl hchars hu) _

theorem run_inv (ls : List Lexeme) : ∀ {pre : List Char} {s : St},
    Inv p0 path pre s → (∀ lx ∈ ls, Honest lx) → p0 + 1 + pre.length + (flat ls).length < W →
    ∃ s' more, runLexemes s ls = .ok s' ∧ Inv p0 path (pre ++ flat ls) s' ∧ s'.idx = s.idx ++ more ∧
      ∀ e ∈ more, p0 + 1 + pre.length < e.position := by
  induction ls with
  | nil => exact fun {_ s} h _ _ => ⟨s, [], rfl, by rwa [flat_nil, List.append_nil], (List.append_nil _).symm, List.forall_mem_nil _⟩
  | cons lx rest ih =>
    intro pre s h hon hfit
    rw [flat_cons, List.length_append] at hfit
    obtain ⟨s1, more1, hstep, hinv1, hidx1, hmore1⟩ := h.step lx (hon lx List.mem_cons_self) (by omega)
    obtain ⟨s', more2, hrun, hinv', hidx', hmore2⟩ :=
      ih hinv1 (fun lx hlx => hon lx (List.mem_cons_of_mem _ hlx)) (by rw [List.length_append]; omega)
    refine ⟨s', more1 ++ more2, ?_, ?_, ?_, fun e he => ?_⟩
    · simp only [runLexemes, hstep]; exact hrun
    · rwa [flat_cons, ← List.append_assoc]
    · rw [hidx', hidx1, List.append_assoc]
    · rcases List.mem_append.mp he with he | he
      · exact hmore1 e he [] lx.chars rfl noNl_nil
      · exact Nat.lt_of_le_of_lt (by rw [List.length_append]; omega) (hmore2 e he)

theorem run_resolve (h : Inv p0 path pre s) (a : List Lexeme) (lx : Lexeme) (b : List Lexeme)
    (hon : ∀ lx' ∈ a ++ lx :: b, Honest lx') (hfit : p0 + 1 + pre.length + (flat (a ++ lx :: b)).length < W)
    {u v : List Char} (hchars : lx.chars = u ++ v) (hu : noNl u) :
    ∃ s', runLexemes s (a ++ lx :: b) = .ok s' ∧
      resolve s'.idx (p0 + 1 + pre.length + (flat a).length + u.length) =
        .ok ⟨path, refLine (pre ++ flat a ++ u), refCol (pre ++ flat a ++ u)⟩ := by
  rw [flat_append, flat_cons, List.length_append, List.length_append] at hfit
  have hulen : u.length ≤ lx.chars.length := by rw [hchars, List.length_append]; omega
  obtain ⟨s1, _, hrun1, hinv1, _, _⟩ := run_inv a h (fun x hx => hon x (List.mem_append_left _ hx)) (by omega)
  obtain ⟨s2, more1, hstep, hinv2, hidx2, hmore1⟩ :=
    hinv1.step lx (hon lx (by simp)) (by rw [List.length_append]; omega)
  obtain ⟨s', more2, hrun2, hinv', hidx', hmore2⟩ :=
    run_inv b hinv2 (fun x hx => hon x (by simp [hx])) (by simp only [List.length_append]; omega)
  refine ⟨s', by rw [runLexemes_append _ hrun1, runLexemes, hstep]; exact hrun2, ?_⟩
  -- the position lies on the line current after `a`; `lx` and `b` only append entries beyond it
  have hres := hinv1.resolve hu (more := more1 ++ more2) (by rw [← List.append_assoc, ← hidx2, ← hidx']; exact hinv'.mono)
    (fun e he => by
      rcases List.mem_append.mp he with he | he
      · exact hmore1 e he u v hchars hu
      · have := hmore2 e he; simp only [List.length_append] at this ⊢; omega)
    (by rw [List.length_append]; omega)
  rwa [← List.append_assoc, ← hidx2, ← hidx', List.length_append, ← Nat.add_assoc] at hres

end UtapModel.LexLines
