/- GENERATED by checks/c03.py on every run: for each (parent, position, child) combination of today's tables where the
   printer omits parentheses the grammar needs, the printed witness does NOT parse back to the witness. -/
import UtapModel.Model.PrintModel
namespace UtapModel.C03W
open UtapModel.Pratt UtapModel.ExprTable UtapModel.PrintModel

def witnesses : List Expr := [
  (.call (.bin 43 (.atom (.ident "a")) (.atom (.ident "b"))) (.acons (.atom (.ident "a")) .anil)),
  (.call (.bin 44 (.atom (.ident "a")) (.atom (.ident "b"))) (.acons (.atom (.ident "a")) .anil)),
  (.call (.bin 41 (.atom (.ident "a")) (.atom (.ident "b"))) (.acons (.atom (.ident "a")) .anil)),
  (.call (.bin 42 (.atom (.ident "a")) (.atom (.ident "b"))) (.acons (.atom (.ident "a")) .anil)),
  (.call (.bin 46 (.atom (.ident "a")) (.atom (.ident "b"))) (.acons (.atom (.ident "a")) .anil)),
  (.call (.bin 45 (.atom (.ident "a")) (.atom (.ident "b"))) (.acons (.atom (.ident "a")) .anil)),
  (.call (.bin 52 (.atom (.ident "a")) (.atom (.ident "b"))) (.acons (.atom (.ident "a")) .anil)),
  (.call (.bin 51 (.atom (.ident "a")) (.atom (.ident "b"))) (.acons (.atom (.ident "a")) .anil)),
  (.call (.bin 53 (.atom (.ident "a")) (.atom (.ident "b"))) (.acons (.atom (.ident "a")) .anil)),
  (.call (.bin 54 (.atom (.ident "a")) (.atom (.ident "b"))) (.acons (.atom (.ident "a")) .anil)),
  (.call (.bin 55 (.atom (.ident "a")) (.atom (.ident "b"))) (.acons (.atom (.ident "a")) .anil)),
  (.call (.bin 56 (.atom (.ident "a")) (.atom (.ident "b"))) (.acons (.atom (.ident "a")) .anil)),
  (.call (.bin 40 (.atom (.ident "a")) (.atom (.ident "b"))) (.acons (.atom (.ident "a")) .anil)),
  (.call (.bin 38 (.atom (.ident "a")) (.atom (.ident "b"))) (.acons (.atom (.ident "a")) .anil)),
  (.call (.bin 39 (.atom (.ident "a")) (.atom (.ident "b"))) (.acons (.atom (.ident "a")) .anil)),
  (.call (.bin 49 (.atom (.ident "a")) (.atom (.ident "b"))) (.acons (.atom (.ident "a")) .anil)),
  (.call (.bin 50 (.atom (.ident "a")) (.atom (.ident "b"))) (.acons (.atom (.ident "a")) .anil)),
  (.call (.bin 36 (.atom (.ident "a")) (.atom (.ident "b"))) (.acons (.atom (.ident "a")) .anil)),
  (.call (.bin 32 (.atom (.ident "a")) (.atom (.ident "b"))) (.acons (.atom (.ident "a")) .anil)),
  (.call (.bin 34 (.atom (.ident "a")) (.atom (.ident "b"))) (.acons (.atom (.ident "a")) .anil)),
  (.call (.bin 47 (.atom (.ident "a")) (.atom (.ident "b"))) (.acons (.atom (.ident "a")) .anil)),
  (.call (.bin 48 (.atom (.ident "a")) (.atom (.ident "b"))) (.acons (.atom (.ident "a")) .anil)),
  (.call (.bin 19 (.atom (.ident "a")) (.atom (.ident "b"))) (.acons (.atom (.ident "a")) .anil)),
  (.call (.pre 60 (.atom (.ident "a"))) (.acons (.atom (.ident "a")) .anil)),
  (.call (.pre 61 (.atom (.ident "a"))) (.acons (.atom (.ident "a")) .anil)),
  (.call (.pre 51 (.atom (.ident "a"))) (.acons (.atom (.ident "a")) .anil)),
  (.call (.pre 57 (.atom (.ident "a"))) (.acons (.atom (.ident "a")) .anil)),
  (.call (.quant 18 "i" "int[0,3]" (.atom (.ident "a"))) (.acons (.atom (.ident "a")) .anil)),
  (.call (.quant 16 "i" "int[0,3]" (.atom (.ident "a"))) (.acons (.atom (.ident "a")) .anil)),
  (.call (.quant 17 "i" "int[0,3]" (.atom (.ident "a"))) (.acons (.atom (.ident "a")) .anil)),
  (.call (.tern (.atom (.ident "p")) (.atom (.ident "a")) (.atom (.ident "b"))) (.acons (.atom (.ident "a")) .anil))]

/-- All witnesses are evaluated inside one declaration: the printer's tables are keyed by strings, comparing strings is what the
    kernel spends its time on here, and what it has normalised it keeps only until the end of a declaration. -/
theorem witnesses_fail : ∀ e ∈ witnesses, good genData mt false e = false ∧ parseTop utapT (lprint genData mt e) ≠ some e := by
  decide +kernel

theorem witness_at (i : Nat) {e : Expr} (h : witnesses[i]? = some e) :
    good genData mt false e = false ∧ parseTop utapT (lprint genData mt e) ≠ some e :=
  witnesses_fail e (List.mem_of_getElem? h)

/-- FUN_CALL, operand 0 = LT :  `( a < b ) ( a )`  is printed  `a < b ( a )` -/
theorem witness_0 : good genData mt false (.call (.bin 43 (.atom (.ident "a")) (.atom (.ident "b"))) (.acons (.atom (.ident "a")) .anil)) = false ∧
    parseTop utapT (lprint genData mt (.call (.bin 43 (.atom (.ident "a")) (.atom (.ident "b"))) (.acons (.atom (.ident "a")) .anil))) ≠ some (.call (.bin 43 (.atom (.ident "a")) (.atom (.ident "b"))) (.acons (.atom (.ident "a")) .anil)) := witness_at 0 rfl
/-- FUN_CALL, operand 0 = LE :  `( a <= b ) ( a )`  is printed  `a <= b ( a )` -/
theorem witness_1 : good genData mt false (.call (.bin 44 (.atom (.ident "a")) (.atom (.ident "b"))) (.acons (.atom (.ident "a")) .anil)) = false ∧
    parseTop utapT (lprint genData mt (.call (.bin 44 (.atom (.ident "a")) (.atom (.ident "b"))) (.acons (.atom (.ident "a")) .anil))) ≠ some (.call (.bin 44 (.atom (.ident "a")) (.atom (.ident "b"))) (.acons (.atom (.ident "a")) .anil)) := witness_at 1 rfl
/-- FUN_CALL, operand 0 = EQ :  `( a == b ) ( a )`  is printed  `a == b ( a )` -/
theorem witness_2 : good genData mt false (.call (.bin 41 (.atom (.ident "a")) (.atom (.ident "b"))) (.acons (.atom (.ident "a")) .anil)) = false ∧
    parseTop utapT (lprint genData mt (.call (.bin 41 (.atom (.ident "a")) (.atom (.ident "b"))) (.acons (.atom (.ident "a")) .anil))) ≠ some (.call (.bin 41 (.atom (.ident "a")) (.atom (.ident "b"))) (.acons (.atom (.ident "a")) .anil)) := witness_at 2 rfl
/-- FUN_CALL, operand 0 = NEQ :  `( a != b ) ( a )`  is printed  `a != b ( a )` -/
theorem witness_3 : good genData mt false (.call (.bin 42 (.atom (.ident "a")) (.atom (.ident "b"))) (.acons (.atom (.ident "a")) .anil)) = false ∧
    parseTop utapT (lprint genData mt (.call (.bin 42 (.atom (.ident "a")) (.atom (.ident "b"))) (.acons (.atom (.ident "a")) .anil))) ≠ some (.call (.bin 42 (.atom (.ident "a")) (.atom (.ident "b"))) (.acons (.atom (.ident "a")) .anil)) := witness_at 3 rfl
/-- FUN_CALL, operand 0 = GT :  `( a > b ) ( a )`  is printed  `a > b ( a )` -/
theorem witness_4 : good genData mt false (.call (.bin 46 (.atom (.ident "a")) (.atom (.ident "b"))) (.acons (.atom (.ident "a")) .anil)) = false ∧
    parseTop utapT (lprint genData mt (.call (.bin 46 (.atom (.ident "a")) (.atom (.ident "b"))) (.acons (.atom (.ident "a")) .anil))) ≠ some (.call (.bin 46 (.atom (.ident "a")) (.atom (.ident "b"))) (.acons (.atom (.ident "a")) .anil)) := witness_at 4 rfl
/-- FUN_CALL, operand 0 = GE :  `( a >= b ) ( a )`  is printed  `a >= b ( a )` -/
theorem witness_5 : good genData mt false (.call (.bin 45 (.atom (.ident "a")) (.atom (.ident "b"))) (.acons (.atom (.ident "a")) .anil)) = false ∧
    parseTop utapT (lprint genData mt (.call (.bin 45 (.atom (.ident "a")) (.atom (.ident "b"))) (.acons (.atom (.ident "a")) .anil))) ≠ some (.call (.bin 45 (.atom (.ident "a")) (.atom (.ident "b"))) (.acons (.atom (.ident "a")) .anil)) := witness_at 5 rfl
/-- FUN_CALL, operand 0 = PLUS :  `( a + b ) ( a )`  is printed  `a + b ( a )` -/
theorem witness_6 : good genData mt false (.call (.bin 52 (.atom (.ident "a")) (.atom (.ident "b"))) (.acons (.atom (.ident "a")) .anil)) = false ∧
    parseTop utapT (lprint genData mt (.call (.bin 52 (.atom (.ident "a")) (.atom (.ident "b"))) (.acons (.atom (.ident "a")) .anil))) ≠ some (.call (.bin 52 (.atom (.ident "a")) (.atom (.ident "b"))) (.acons (.atom (.ident "a")) .anil)) := witness_at 6 rfl
/-- FUN_CALL, operand 0 = MINUS :  `( a - b ) ( a )`  is printed  `a - b ( a )` -/
theorem witness_7 : good genData mt false (.call (.bin 51 (.atom (.ident "a")) (.atom (.ident "b"))) (.acons (.atom (.ident "a")) .anil)) = false ∧
    parseTop utapT (lprint genData mt (.call (.bin 51 (.atom (.ident "a")) (.atom (.ident "b"))) (.acons (.atom (.ident "a")) .anil))) ≠ some (.call (.bin 51 (.atom (.ident "a")) (.atom (.ident "b"))) (.acons (.atom (.ident "a")) .anil)) := witness_at 7 rfl
/-- FUN_CALL, operand 0 = MULT :  `( a * b ) ( a )`  is printed  `a * b ( a )` -/
theorem witness_8 : good genData mt false (.call (.bin 53 (.atom (.ident "a")) (.atom (.ident "b"))) (.acons (.atom (.ident "a")) .anil)) = false ∧
    parseTop utapT (lprint genData mt (.call (.bin 53 (.atom (.ident "a")) (.atom (.ident "b"))) (.acons (.atom (.ident "a")) .anil))) ≠ some (.call (.bin 53 (.atom (.ident "a")) (.atom (.ident "b"))) (.acons (.atom (.ident "a")) .anil)) := witness_at 8 rfl
/-- FUN_CALL, operand 0 = DIV :  `( a / b ) ( a )`  is printed  `a / b ( a )` -/
theorem witness_9 : good genData mt false (.call (.bin 54 (.atom (.ident "a")) (.atom (.ident "b"))) (.acons (.atom (.ident "a")) .anil)) = false ∧
    parseTop utapT (lprint genData mt (.call (.bin 54 (.atom (.ident "a")) (.atom (.ident "b"))) (.acons (.atom (.ident "a")) .anil))) ≠ some (.call (.bin 54 (.atom (.ident "a")) (.atom (.ident "b"))) (.acons (.atom (.ident "a")) .anil)) := witness_at 9 rfl
/-- FUN_CALL, operand 0 = MOD :  `( a % b ) ( a )`  is printed  `a % b ( a )` -/
theorem witness_10 : good genData mt false (.call (.bin 55 (.atom (.ident "a")) (.atom (.ident "b"))) (.acons (.atom (.ident "a")) .anil)) = false ∧
    parseTop utapT (lprint genData mt (.call (.bin 55 (.atom (.ident "a")) (.atom (.ident "b"))) (.acons (.atom (.ident "a")) .anil))) ≠ some (.call (.bin 55 (.atom (.ident "a")) (.atom (.ident "b"))) (.acons (.atom (.ident "a")) .anil)) := witness_at 10 rfl
/-- FUN_CALL, operand 0 = POW :  `( a ** b ) ( a )`  is printed  `a ** b ( a )` -/
theorem witness_11 : good genData mt false (.call (.bin 56 (.atom (.ident "a")) (.atom (.ident "b"))) (.acons (.atom (.ident "a")) .anil)) = false ∧
    parseTop utapT (lprint genData mt (.call (.bin 56 (.atom (.ident "a")) (.atom (.ident "b"))) (.acons (.atom (.ident "a")) .anil))) ≠ some (.call (.bin 56 (.atom (.ident "a")) (.atom (.ident "b"))) (.acons (.atom (.ident "a")) .anil)) := witness_at 11 rfl
/-- FUN_CALL, operand 0 = BIT_AND :  `( a & b ) ( a )`  is printed  `a & b ( a )` -/
theorem witness_12 : good genData mt false (.call (.bin 40 (.atom (.ident "a")) (.atom (.ident "b"))) (.acons (.atom (.ident "a")) .anil)) = false ∧
    parseTop utapT (lprint genData mt (.call (.bin 40 (.atom (.ident "a")) (.atom (.ident "b"))) (.acons (.atom (.ident "a")) .anil))) ≠ some (.call (.bin 40 (.atom (.ident "a")) (.atom (.ident "b"))) (.acons (.atom (.ident "a")) .anil)) := witness_at 12 rfl
/-- FUN_CALL, operand 0 = BIT_OR :  `( a | b ) ( a )`  is printed  `a | b ( a )` -/
theorem witness_13 : good genData mt false (.call (.bin 38 (.atom (.ident "a")) (.atom (.ident "b"))) (.acons (.atom (.ident "a")) .anil)) = false ∧
    parseTop utapT (lprint genData mt (.call (.bin 38 (.atom (.ident "a")) (.atom (.ident "b"))) (.acons (.atom (.ident "a")) .anil))) ≠ some (.call (.bin 38 (.atom (.ident "a")) (.atom (.ident "b"))) (.acons (.atom (.ident "a")) .anil)) := witness_at 13 rfl
/-- FUN_CALL, operand 0 = BIT_XOR :  `( a ^ b ) ( a )`  is printed  `a ^ b ( a )` -/
theorem witness_14 : good genData mt false (.call (.bin 39 (.atom (.ident "a")) (.atom (.ident "b"))) (.acons (.atom (.ident "a")) .anil)) = false ∧
    parseTop utapT (lprint genData mt (.call (.bin 39 (.atom (.ident "a")) (.atom (.ident "b"))) (.acons (.atom (.ident "a")) .anil))) ≠ some (.call (.bin 39 (.atom (.ident "a")) (.atom (.ident "b"))) (.acons (.atom (.ident "a")) .anil)) := witness_at 14 rfl
/-- FUN_CALL, operand 0 = BIT_LSHIFT :  `( a << b ) ( a )`  is printed  `a << b ( a )` -/
theorem witness_15 : good genData mt false (.call (.bin 49 (.atom (.ident "a")) (.atom (.ident "b"))) (.acons (.atom (.ident "a")) .anil)) = false ∧
    parseTop utapT (lprint genData mt (.call (.bin 49 (.atom (.ident "a")) (.atom (.ident "b"))) (.acons (.atom (.ident "a")) .anil))) ≠ some (.call (.bin 49 (.atom (.ident "a")) (.atom (.ident "b"))) (.acons (.atom (.ident "a")) .anil)) := witness_at 15 rfl
/-- FUN_CALL, operand 0 = BIT_RSHIFT :  `( a >> b ) ( a )`  is printed  `a >> b ( a )` -/
theorem witness_16 : good genData mt false (.call (.bin 50 (.atom (.ident "a")) (.atom (.ident "b"))) (.acons (.atom (.ident "a")) .anil)) = false ∧
    parseTop utapT (lprint genData mt (.call (.bin 50 (.atom (.ident "a")) (.atom (.ident "b"))) (.acons (.atom (.ident "a")) .anil))) ≠ some (.call (.bin 50 (.atom (.ident "a")) (.atom (.ident "b"))) (.acons (.atom (.ident "a")) .anil)) := witness_at 16 rfl
/-- FUN_CALL, operand 0 = AND :  `( a && b ) ( a )`  is printed  `a && b ( a )` -/
theorem witness_17 : good genData mt false (.call (.bin 36 (.atom (.ident "a")) (.atom (.ident "b"))) (.acons (.atom (.ident "a")) .anil)) = false ∧
    parseTop utapT (lprint genData mt (.call (.bin 36 (.atom (.ident "a")) (.atom (.ident "b"))) (.acons (.atom (.ident "a")) .anil))) ≠ some (.call (.bin 36 (.atom (.ident "a")) (.atom (.ident "b"))) (.acons (.atom (.ident "a")) .anil)) := witness_at 17 rfl
/-- FUN_CALL, operand 0 = OR :  `( a || b ) ( a )`  is printed  `a || b ( a )` -/
theorem witness_18 : good genData mt false (.call (.bin 32 (.atom (.ident "a")) (.atom (.ident "b"))) (.acons (.atom (.ident "a")) .anil)) = false ∧
    parseTop utapT (lprint genData mt (.call (.bin 32 (.atom (.ident "a")) (.atom (.ident "b"))) (.acons (.atom (.ident "a")) .anil))) ≠ some (.call (.bin 32 (.atom (.ident "a")) (.atom (.ident "b"))) (.acons (.atom (.ident "a")) .anil)) := witness_at 18 rfl
/-- FUN_CALL, operand 0 = XOR :  `( a xor b ) ( a )`  is printed  `( a ) xor ( b ) ( a )` -/
theorem witness_19 : good genData mt false (.call (.bin 34 (.atom (.ident "a")) (.atom (.ident "b"))) (.acons (.atom (.ident "a")) .anil)) = false ∧
    parseTop utapT (lprint genData mt (.call (.bin 34 (.atom (.ident "a")) (.atom (.ident "b"))) (.acons (.atom (.ident "a")) .anil))) ≠ some (.call (.bin 34 (.atom (.ident "a")) (.atom (.ident "b"))) (.acons (.atom (.ident "a")) .anil)) := witness_at 19 rfl
/-- FUN_CALL, operand 0 = MIN :  `( a <? b ) ( a )`  is printed  `a <? b ( a )` -/
theorem witness_20 : good genData mt false (.call (.bin 47 (.atom (.ident "a")) (.atom (.ident "b"))) (.acons (.atom (.ident "a")) .anil)) = false ∧
    parseTop utapT (lprint genData mt (.call (.bin 47 (.atom (.ident "a")) (.atom (.ident "b"))) (.acons (.atom (.ident "a")) .anil))) ≠ some (.call (.bin 47 (.atom (.ident "a")) (.atom (.ident "b"))) (.acons (.atom (.ident "a")) .anil)) := witness_at 20 rfl
/-- FUN_CALL, operand 0 = MAX :  `( a >? b ) ( a )`  is printed  `a >? b ( a )` -/
theorem witness_21 : good genData mt false (.call (.bin 48 (.atom (.ident "a")) (.atom (.ident "b"))) (.acons (.atom (.ident "a")) .anil)) = false ∧
    parseTop utapT (lprint genData mt (.call (.bin 48 (.atom (.ident "a")) (.atom (.ident "b"))) (.acons (.atom (.ident "a")) .anil))) ≠ some (.call (.bin 48 (.atom (.ident "a")) (.atom (.ident "b"))) (.acons (.atom (.ident "a")) .anil)) := witness_at 21 rfl
/-- FUN_CALL, operand 0 = ASSIGN :  `( a = b ) ( a )`  is printed  `a = b ( a )` -/
theorem witness_22 : good genData mt false (.call (.bin 19 (.atom (.ident "a")) (.atom (.ident "b"))) (.acons (.atom (.ident "a")) .anil)) = false ∧
    parseTop utapT (lprint genData mt (.call (.bin 19 (.atom (.ident "a")) (.atom (.ident "b"))) (.acons (.atom (.ident "a")) .anil))) ≠ some (.call (.bin 19 (.atom (.ident "a")) (.atom (.ident "b"))) (.acons (.atom (.ident "a")) .anil)) := witness_at 22 rfl
/-- FUN_CALL, operand 0 = PRE_INCREMENT :  `( ++ a ) ( a )`  is printed  `++ a ( a )` -/
theorem witness_23 : good genData mt false (.call (.pre 60 (.atom (.ident "a"))) (.acons (.atom (.ident "a")) .anil)) = false ∧
    parseTop utapT (lprint genData mt (.call (.pre 60 (.atom (.ident "a"))) (.acons (.atom (.ident "a")) .anil))) ≠ some (.call (.pre 60 (.atom (.ident "a"))) (.acons (.atom (.ident "a")) .anil)) := witness_at 23 rfl
/-- FUN_CALL, operand 0 = PRE_DECREMENT :  `( -- a ) ( a )`  is printed  `-- a ( a )` -/
theorem witness_24 : good genData mt false (.call (.pre 61 (.atom (.ident "a"))) (.acons (.atom (.ident "a")) .anil)) = false ∧
    parseTop utapT (lprint genData mt (.call (.pre 61 (.atom (.ident "a"))) (.acons (.atom (.ident "a")) .anil))) ≠ some (.call (.pre 61 (.atom (.ident "a"))) (.acons (.atom (.ident "a")) .anil)) := witness_at 24 rfl
/-- FUN_CALL, operand 0 = UNARY_MINUS :  `( - a ) ( a )`  is printed  `- a ( a )` -/
theorem witness_25 : good genData mt false (.call (.pre 51 (.atom (.ident "a"))) (.acons (.atom (.ident "a")) .anil)) = false ∧
    parseTop utapT (lprint genData mt (.call (.pre 51 (.atom (.ident "a"))) (.acons (.atom (.ident "a")) .anil))) ≠ some (.call (.pre 51 (.atom (.ident "a"))) (.acons (.atom (.ident "a")) .anil)) := witness_at 25 rfl
/-- FUN_CALL, operand 0 = NOT :  `( ! a ) ( a )`  is printed  `! a ( a )` -/
theorem witness_26 : good genData mt false (.call (.pre 57 (.atom (.ident "a"))) (.acons (.atom (.ident "a")) .anil)) = false ∧
    parseTop utapT (lprint genData mt (.call (.pre 57 (.atom (.ident "a"))) (.acons (.atom (.ident "a")) .anil))) ≠ some (.call (.pre 57 (.atom (.ident "a"))) (.acons (.atom (.ident "a")) .anil)) := witness_at 26 rfl
/-- FUN_CALL, operand 0 = SUM :  `( sum ( i : int[0,3] ) a ) ( a )`  is printed  `sum ( i : int[0,3] ) a ( a )` -/
theorem witness_27 : good genData mt false (.call (.quant 18 "i" "int[0,3]" (.atom (.ident "a"))) (.acons (.atom (.ident "a")) .anil)) = false ∧
    parseTop utapT (lprint genData mt (.call (.quant 18 "i" "int[0,3]" (.atom (.ident "a"))) (.acons (.atom (.ident "a")) .anil))) ≠ some (.call (.quant 18 "i" "int[0,3]" (.atom (.ident "a"))) (.acons (.atom (.ident "a")) .anil)) := witness_at 27 rfl
/-- FUN_CALL, operand 0 = FORALL :  `( forall ( i : int[0,3] ) a ) ( a )`  is printed  `forall ( i : int[0,3] ) a ( a )` -/
theorem witness_28 : good genData mt false (.call (.quant 16 "i" "int[0,3]" (.atom (.ident "a"))) (.acons (.atom (.ident "a")) .anil)) = false ∧
    parseTop utapT (lprint genData mt (.call (.quant 16 "i" "int[0,3]" (.atom (.ident "a"))) (.acons (.atom (.ident "a")) .anil))) ≠ some (.call (.quant 16 "i" "int[0,3]" (.atom (.ident "a"))) (.acons (.atom (.ident "a")) .anil)) := witness_at 28 rfl
/-- FUN_CALL, operand 0 = EXISTS :  `( exists ( i : int[0,3] ) a ) ( a )`  is printed  `exists ( i : int[0,3] ) a ( a )` -/
theorem witness_29 : good genData mt false (.call (.quant 17 "i" "int[0,3]" (.atom (.ident "a"))) (.acons (.atom (.ident "a")) .anil)) = false ∧
    parseTop utapT (lprint genData mt (.call (.quant 17 "i" "int[0,3]" (.atom (.ident "a"))) (.acons (.atom (.ident "a")) .anil))) ≠ some (.call (.quant 17 "i" "int[0,3]" (.atom (.ident "a"))) (.acons (.atom (.ident "a")) .anil)) := witness_at 29 rfl
/-- FUN_CALL, operand 0 = INLINE_IF :  `( p ? a : b ) ( a )`  is printed  `p ? a : b ( a )` -/
theorem witness_30 : good genData mt false (.call (.tern (.atom (.ident "p")) (.atom (.ident "a")) (.atom (.ident "b"))) (.acons (.atom (.ident "a")) .anil)) = false ∧
    parseTop utapT (lprint genData mt (.call (.tern (.atom (.ident "p")) (.atom (.ident "a")) (.atom (.ident "b"))) (.acons (.atom (.ident "a")) .anil))) ≠ some (.call (.tern (.atom (.ident "p")) (.atom (.ident "a")) (.atom (.ident "b"))) (.acons (.atom (.ident "a")) .anil)) := witness_at 30 rfl

end UtapModel.C03W
