-- Root of the `UtapModel` library: every property module (each imports its models, lemmas and generated tables), and the
-- witness theorems of C03 that `checks/c03.py` prints (Gen/PrinterWitness), which no property module imports.
-- `./check --setup` builds this target and all drivers so that later check runs start from a warm cache.
import UtapModel.Props.C01
import UtapModel.Props.C02
import UtapModel.Props.C03
import UtapModel.Props.C03Query
import UtapModel.Props.C04
import UtapModel.Props.C04Rate
import UtapModel.Props.C05
import UtapModel.Props.C06
import UtapModel.Props.C07
import UtapModel.Props.C07Subst
import UtapModel.Props.C08
import UtapModel.Props.C09
import UtapModel.Props.C10
import UtapModel.Props.C11
import UtapModel.Props.C12
import UtapModel.Props.C13
import UtapModel.Props.C14
import UtapModel.Props.C15
import UtapModel.Props.C16
import UtapModel.Props.C16Sync
import UtapModel.Props.C17
import UtapModel.Props.C18
import UtapModel.Props.C18Float
import UtapModel.Props.C19
import UtapModel.Props.C20
import UtapModel.Gen.PrinterWitness
